/-
C06 — Captured output is complete, ordered and exactly what the command wrote.
Theorems over `Capture` (tied to xonsh/procs/{readers,posix,pipelines,proxies}.py by xv/props/c06.py).

A  queue reader, all chunkings and schedules: safety once the drain loop is left, the prefix property at every moment.
B  in-memory buffer of PopenThread: with the reader taking the writer's lock (the code since /repo f545504) ALL schedules
   are safe (C06_B_locked); without it (the pinned snapshot) only the schedules in which no read lands between the writer's
   tell() and seek(0, END) are (C06_B_partial), and C06_B_cex is the duplicated output the snapshot could produce.
C  text shaping: independence of the fragmentation for whole-line fragmentations, exactness for plain text, the $() path,
   counterexamples where a CRLF / multi-byte sequence / escape sequence / one-line output is cut by a fragment boundary.
Return code = last stage.
Liveness (the drain loop is eventually left, nothing deadlocks) and the OS's pipe semantics are NOT modelled.
-/
import XonshVerif.Lemmas.Capture
open Capture Capture.Shape

/-- C06 (A, safety): for EVERY payload, EVERY way the writer's output is cut into non-empty `os.read` results, and EVERY
interleaving of the producer thread, the polling consumer and the moment the final drain starts: if the drain loop is left
(`is_fully_read()` was observed true) then the fragments handed on are, joined, exactly the payload — complete, once, in order. -/
theorem C06_A_safety (chunks : List (List Nat)) (hne : ∀ c ∈ chunks, c ≠ []) (sched : List QReader.Tid)
    (hdone : (QReader.run (QReader.init chunks) sched).cpc = .done) :
    (QReader.run (QReader.init chunks) sched).collected = chunks.flatten := by
  rw [QA.good_done (QA.good_run sched _ (QA.good_init chunks hne)) hdone, QA.total_run, QA.total_init]

/-- at every moment of every run what was handed on is a prefix of the payload (nothing duplicated, nothing out of order,
even before the end) -/
theorem C06_A_prefix (chunks : List (List Nat)) (hne : ∀ c ∈ chunks, c ≠ []) (sched : List QReader.Tid) :
    ∃ rest, (QReader.run (QReader.init chunks) sched).collected ++ rest = chunks.flatten :=
  QA.collected_prefix chunks sched

/-- non-vacuity: a schedule in which the consumer polls while the producer is still copying, then drains, and leaves the loop -/
example :
    let s := QReader.run (QReader.init [[97, 13], [10, 98, 10], [99]])
      [.P, .P, .C, .P, .C, .P, .D, .C, .C, .P, .P, .C, .C, .P, .P, .P, .C, .C, .C, .C, .C, .C, .C, .C, .C, .C]
    s.cpc = .done ∧ s.collected = [97, 13, 10, 98, 10, 99] ∧ s.frags = [[97, 13], [10], [98, 10], [99]] := by decide

/-- non-vacuity of the hypothesis `done`: without EOF the loop is not left -/
example : (QReader.run (QReader.init [[97]]) [.P, .P, .D, .C, .C, .C, .C, .C, .C, .C, .C]).cpc ≠ .done := by decide

/-- C06 (B, partial): for EVERY chunking and EVERY interleaving of the writer's statements with reads of any size in which no
read lands between the writer's `tell()` and `seek(0, END)`: once the writer is finished, what the reader got plus what the
final `readlines()` returns is exactly the payload. -/
theorem C06_B_partial (chunks : List (List Nat)) (evs : List MemBuf.Ev)
    (htame : MemBuf.tame false (MemBuf.init chunks) evs = true)
    (hidle : (MemBuf.run false (MemBuf.init chunks) evs).wpc = .idle)
    (hdone : (MemBuf.run false (MemBuf.init chunks) evs).todo = []) :
    MemBuf.final (MemBuf.run false (MemBuf.init chunks) evs) = chunks.flatten :=
  MB.final_of_tame false chunks evs htame hidle hdone

/-- C06 (B, the code as it is since /repo f545504): `iterraw` takes the writer's lock around `readlines`, so a read never
happens while the writer is inside `_alt_mode_writer` — EVERY interleaving is safe.  (The harness checks on every run that the
reader still takes the lock and drives the real threads through the counterexample's schedule: no duplicate may appear.) -/
theorem C06_B_locked (chunks : List (List Nat)) (evs : List MemBuf.Ev)
    (hidle : (MemBuf.run true (MemBuf.init chunks) evs).wpc = .idle)
    (hdone : (MemBuf.run true (MemBuf.init chunks) evs).todo = []) :
    MemBuf.final (MemBuf.run true (MemBuf.init chunks) evs) = chunks.flatten :=
  MB.final_of_tame true chunks evs (MB.tame_locked evs _) hidle hdone

/-- C06 (B, behaviour of the PINNED SNAPSHOT, repaired in /repo f545504): with an unlocked reader the full statement is
false — chunks `a\n`, `b\n`; the reader runs once between the writer's `tell()` and `seek(0, END)` for the second chunk:
`a\n` is delivered twice.  This is why the lock is needed, and what a regression would look like. -/
theorem C06_B_cex :
    let evs : List MemBuf.Ev := [.W, .W, .W, .W, .W, .R 100, .W, .W, .W]
    let s := MemBuf.run false (MemBuf.init [[97, 10], [98, 10]]) evs
    s.wpc = .idle ∧ s.todo = [] ∧ MemBuf.final s = [97, 10, 97, 10, 98, 10] := by
  decide

/-- non-vacuity: a tame interleaving with reads while the writer works -/
example :
    let evs : List MemBuf.Ev := [.W, .W, .W, .W, .R 1, .W, .W, .R 100, .W, .R 1, .W, .R 0]
    MemBuf.tame false (MemBuf.init [[97, 10], [98, 10]]) evs = true ∧
    (MemBuf.run false (MemBuf.init [[97, 10], [98, 10]]) evs).wpc = .idle ∧
    MemBuf.final (MemBuf.run false (MemBuf.init [[97, 10], [98, 10]]) evs) = [97, 10, 98, 10] := by decide

/-- the counterexample's schedule is not tame, and under the lock the same schedule is harmless -/
example :
    let evs : List MemBuf.Ev := [.W, .W, .W, .W, .W, .R 100, .W, .W, .W]
    MemBuf.tame false (MemBuf.init [[97, 10], [98, 10]]) evs = false ∧
    MemBuf.final (MemBuf.run true (MemBuf.init [[97, 10], [98, 10]]) evs) = [97, 10, 98, 10] := by decide

/-- C06 (C, partial — fragmentation independence): two fragmentations of the SAME bytes into whole lines give the same
`lines`, `.out` and `.raw_out`; i.e. as long as the reader hands on whole lines, the text views do not depend on chunking and
timing. -/
theorem C06_C_independent_partial (fs gs : List (List Nat)) (hf : LFAligned fs) (hg : LFAligned gs)
    (h : fs.flatten = gs.flatten) : objLines fs = objLines gs ∧ objOut fs = objOut gs ∧ objRaw fs = objRaw gs := by
  rw [SH.aligned_unique fs gs hf hg h]; exact ⟨rfl, rfl, rfl⟩

/-- C06 (C, plain text): for printable-ASCII text, iteration over ANY fragmentation yields exactly the bytes written, which is
also what the property's text is. -/
theorem C06_C_plain_exact (fs : List (List Nat)) (h : ∀ f ∈ fs, ∀ x ∈ f, plainB x = true) :
    (objLines fs).flatten = fs.flatten ∧ specText fs.flatten = fs.flatten ∧ specIter fs.flatten (objLines fs) = true := by
  have hfl : ∀ x ∈ fs.flatten, plainB x = true := fun x hx =>
    have ⟨f, hf, hxf⟩ := List.mem_flatten.mp hx
    h f hf x hxf
  have h2 := SH.specText_plain fs.flatten hfl
  rw [SH.objLines_plain fs h]
  exact ⟨rfl, h2, by rw [specIter, h2, SH.canon_plain _ hfl]; exact beq_self_eq_true _⟩

/-! ### the `C06_C_cex_*` theorems that follow — the full statement is false: the same bytes, cut differently, give different text -/

/-- `a\r\n b\n` cut between `\r` and `\n`: a blank line appears -/
theorem C06_C_cex_crlf :
    objOut [[97, 13], [10, 98, 10]] = [97, 10, 10, 98, 10] ∧ objOut [[97, 13, 10], [98, 10]] = [97, 10, 98, 10] ∧
    specObjOut [97, 13, 10, 98, 10] (objOut [[97, 13], [10, 98, 10]]) = false := by decide

/-- `é\n` (C3 A9 0A) cut inside the two-byte sequence: two lone surrogates instead of U+00E9 -/
theorem C06_C_cex_multibyte :
    objOut [[195], [169, 10]] = [56515, 56489, 10] ∧ objOut [[195, 169, 10]] = [233] ∧
    specObjOut [195, 169, 10] (objOut [[195], [169, 10]]) = false := by decide

/-- `ESC[31mx\n` cut inside the escape sequence: it is not removed -/
theorem C06_C_cex_escape :
    objOut [[27, 91, 51], [49, 109, 120, 10]] = [27, 91, 51, 49, 109, 120, 10] ∧ objOut [[27, 91, 51, 49, 109, 120, 10]] = [120] := by decide

/-- a one-line output delivered as `a` and `\n` keeps its newline; delivered in one piece it loses it -/
theorem C06_C_cex_oneline : objOut [[97], [10]] = [97, 10] ∧ objOut [[97, 10]] = [97] := by decide

/-- `\r\r\n` inside one fragment: only the last `\r\n` is turned into `\n`, the `\r` before it stays, and normalising the view
gives one line break where the bytes have two -/
theorem C06_C_cex_crcrlf :
    objOut [[97, 13, 13, 10], [98, 10]] = [97, 13, 10, 98, 10] ∧ specObjOut [97, 13, 13, 10, 98, 10] (objOut [[97, 13, 13, 10], [98, 10]]) = false := by decide

/-- `a\rb\n` arriving as ONE fragment (the BytesIO path breaks at `\n` only): "one line" is decided by counting fragments, so
the final newline is dropped although the normalised text has two lines -/
theorem C06_C_cex_cr_onefragment :
    objOut [[97, 13, 98, 10]] = [97, 13, 98] ∧ specObjOut [97, 13, 98, 10] (objOut [[97, 13, 98, 10]]) = false ∧
    specObjOut [97, 13, 98, 10] (objOut [[97, 13], [98, 10]]) = true := by decide

/-- `$()`: a one-line output that contains a vertical tab keeps its final newline (`str.splitlines` breaks at `\v`) -/
theorem C06_C_cex_stdout_vt :
    stdoutOut [97, 11, 98, 10] = [97, 11, 98, 10] ∧ specStdout [97, 11, 98, 10] (stdoutOut [97, 11, 98, 10]) = false ∧
    specStdout [97, 11, 98, 10] [97, 11, 98] = true := by decide

/-- C06 (C, `$()` path): `iterraw` joins everything the queue reader delivered BEFORE decoding, so for every chunking and every
schedule the value of `$()` is a function of the payload alone. -/
theorem C06_C_stdout_path (chunks : List (List Nat)) (hne : ∀ c ∈ chunks, c ≠ []) (sched : List QReader.Tid)
    (hdone : (QReader.run (QReader.init chunks) sched).cpc = .done) :
    stdoutOut (QReader.run (QReader.init chunks) sched).collected = stdoutOut chunks.flatten := by
  rw [C06_A_safety chunks hne sched hdone]

/-- the `!()` path end to end: for every chunking and schedule `.raw_out` is the payload -/
theorem C06_raw_out (chunks : List (List Nat)) (hne : ∀ c ∈ chunks, c ≠ []) (sched : List QReader.Tid)
    (hdone : (QReader.run (QReader.init chunks) sched).cpc = .done) :
    specRaw chunks.flatten (objRaw (QReader.run (QReader.init chunks) sched).frags) = true := by
  have := C06_A_safety chunks hne sched hdone
  simp only [QReader.St.collected] at this
  simp [specRaw, objRaw, this]

/-- C06 (C, `$()` one line): a one-line plain text loses exactly its final newline, with or without one it comes out as the
line itself — and that is what the property's text says. -/
theorem C06_C_stdout_oneline (t : List Nat) (hp : ∀ x ∈ t, plainB x = true) (hl : ∀ x ∈ t, x ≠ 10) (hne : t ≠ []) :
    stdoutOut (t ++ [10]) = t ∧ stdoutOut t = t := by
  -- each of the two texts is, by itself, a fragmentation into whole lines
  have h1 := SH.linesLF_of_aligned [t ++ [10]] ⟨by simp, by rwa [List.dropLast_concat]⟩
  have h2 := SH.linesLF_of_aligned [t] ⟨hne, fun x hx => hl x (t.dropLast_subset hx)⟩
  rw [List.flatten_singleton] at h1 h2
  rw [stdoutOut, stdoutOut, SH.stdoutLines_plain _ (List.forall_mem_append.mpr ⟨hp, by simp [plainB]⟩),
    SH.stdoutLines_plain t hp, h1, h2]
  exact SH.rstripNL_line t hl

/-- non-vacuity of `specStdout`: a one-line and a two-line payload -/
example : stdoutOut [104, 105, 10] = [104, 105] ∧ specStdout [104, 105, 10] (stdoutOut [104, 105, 10]) = true ∧
    stdoutOut [97, 10, 98, 10] = [97, 10, 98, 10] ∧ specStdout [97, 10, 98, 10] (stdoutOut [97, 10, 98, 10]) = true := by decide

/-- C06 (history of views): whatever was read before — `.output` right after creation, in the middle of an iteration, any
number of times — every read AFTER the pipeline has ended (`.out`, `str()`, `==`, `.output`) is the formatted text of ALL the
lines delivered, and every read BEFORE the end is the formatted text of a prefix of them. -/
theorem C06_H_reads (ops : List Hist.Op) :
    ∀ r ∈ Hist.run false Hist.init ops,
      (r.1 = true → r.2 = fmtLines (Hist.delivered false ops)) ∧
      (r.1 = false → ∃ k, r.2 = fmtLines ((Hist.delivered false ops).take k)) :=
  HI.run_reads ops Hist.init (fun v hv => by cases hv)

/-- non-vacuity, and what caching an early read would do: `.output` after one of two lines, then `.out` after the end — the
machine of the code returns both lines, the early-caching variant keeps returning the first -/
theorem C06_H_cex_stale_cache :
    Hist.run false Hist.init [.deliver [97, 10], .read, .deliver [98, 10], .finish, .read] = [(false, [97]), (true, [97, 10, 98, 10])] ∧
    Hist.run true Hist.init [.deliver [97, 10], .read, .deliver [98, 10], .finish, .read] = [(false, [97]), (true, [97])] := by decide

open Capture.Rtn in
/-- C06 (return code): whatever runs before it, the pipeline's return code is the LAST stage's: the exit status of a process,
or for a callable alias what `parse_proxy_return` makes of its return value. -/
theorem C06_rtn (pre : List Stage) (last : Stage) : pipelineRc (pre ++ [last]) = stageRc last := by
  simp [pipelineRc]

open Capture.Rtn in
/-- the alias return-value table: int ↦ itself, `(out, err, rc)` ↦ `rc`, str / None / other object ↦ 0, `SystemExit(n)` ↦ `n`,
an exception ↦ 1 -/
theorem C06_rtn_alias_table (n : Int) :
    aliasRc (.int n) = n ∧ aliasRc (.tuple (some n)) = n ∧ aliasRc .none = 0 ∧ aliasRc .str = 0 ∧ aliasRc (.tuple none) = 0 ∧
    aliasRc .other = 0 ∧ aliasRc (.exit (some n) true) = n ∧ aliasRc (.exit none true) = 1 ∧ aliasRc (.exit none false) = 0 ∧
    aliasRc .raised = 1 := by
  simp [aliasRc]

open Capture.Rtn in
example : pipelineRc [.proc 3, .alias (.int 0), .proc 7] = 7 ∧ pipelineRc [.proc 0, .alias (.tuple (some 5))] = 5 ∧
    pipestatus [.proc 3, .alias .str] = [3, 0] := by decide
