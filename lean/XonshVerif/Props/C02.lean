/-
C02 — Python wins: code whose names are all bound runs as Python, never as a command.

Theorems over `Scope` (Model/Scope.lean; tied to xonsh/parsers/ast.py `CtxAwareTransformer` and xonsh/execer.py by
xv/props/c02.py).  `Scope.run env p` walks a program once and gives, per statement, what the PROPERTY says (`ok`: every
name the statement reads is defined — builtin, session name, or bound earlier in the source by Python's lexical rules;
`tame`: every `del` so far is one Python can execute) and what the CODE decides (`decs`: keep | offer to command
interpretation | builtin_cmd, one verdict per `is_in_scope` test).  `env.fx = Fixes.all` is the transformer as it is now
(after the nine fix commits be20ece 3de5a37 f8236d9 722d38f de68657 40ae2dd dd4c90f 067d356 0f3d5e1 to xonsh/parsers/ast.py),
`Fixes.none` the transformer before them; the harness picks the variant per mechanism by replaying the findings' witnesses.
-/
import XonshVerif.Lemmas.ScopeWalk
import XonshVerif.Lemmas.ScopeAll
import XonshVerif.Lemmas.ScopeShape
import XonshVerif.Gen.ExecerOrder
open Scope

theorem run_recOk (env : Env) (p : Stmts) (r : Rec) (hr : r ∈ run env p) : RecOk r :=
  (runL_post env p (St.init env) fun _ _ => Sim.init env).recs r hr

/-- C02, general form: for EVERY program (any nesting, any scope depth), every session and every combination of repaired
mechanisms: a statement all of whose reads are defined is never offered to command interpretation, as long as no
unrepaired mechanism has been triggered before it (`g`). -/
theorem C02_python_wins_gen (env : Env) (p : Stmts) (r : Rec) (hr : r ∈ run env p)
    (hok : r.ok = true) (ht : r.tame = true) (hg : r.g = true) : ∀ d ∈ r.decs, d.v ≠ Verdict.offer :=
  (run_recOk env p r hr).1 hok ht hg

/-- C02 for the transformer BEFORE the repairs (`Fixes.none`): the guards of `g` (all syntactic; see Model/Scope.lean "guards") are
no plain dotted import, no walrus outside the reach of generic_visit, no lambda whose parameters are read under an
`is_in_scope` test, no comprehension variable under a BoolOp/UnaryOp of the element expression, no nested unpacking
target in `=`, no module-level `del` of a session name that is also a builtin, no `del` of an except-name inside its `try`. -/
theorem C02_python_wins_partial (B U : List Name) (p : Stmts) (r : Rec) (hr : r ∈ run ⟨B, U, Fixes.none⟩ p)
    (hok : r.ok = true) (ht : r.tame = true) (hg : r.g = true) : ∀ d ∈ r.decs, d.v ≠ Verdict.offer :=
  C02_python_wins_gen ⟨B, U, Fixes.none⟩ p r hr hok ht hg

/-- THE HEADLINE.  C02 at full strength for the transformer as it is now (all nine mechanisms repaired, `Fixes.all`):
for every program, every set of builtins and every session, a statement all of whose reads are defined is never offered to
command interpretation.  No guard is left. -/
theorem C02_python_wins_repaired (B U : List Name) (p : Stmts) (r : Rec) (hr : r ∈ run ⟨B, U, Fixes.all⟩ p)
    (hok : r.ok = true) (ht : r.tame = true) : ∀ d ∈ r.decs, d.v ≠ Verdict.offer :=
  C02_python_wins_gen ⟨B, U, Fixes.all⟩ p r hr hok ht ((runL_gAll B U p (St.init _) rfl).1 r hr)

/-- the `user_names` shield: a bare name that the session or the source binds is never rewritten into a lookup in `builtins` -/
theorem C02_user_name_shield (env : Env) (p : Stmts) (r : Rec) (hr : r ∈ run env p)
    (hs : r.shadow = true) (ht : r.tame = true) (hg : r.g = true) : ∀ d ∈ r.decs, d.v ≠ Verdict.builtin :=
  (run_recOk env p r hr).2 hs ht hg

/-- names stored and loaded by the same expression (comprehension variables, walrus targets) do not count against it:
`is_in_scope` succeeds as soon as the OTHER names are visible -/
theorem C02_store_same_stmt (env : Env) (c : Ctxs) (e : Expr)
    (h : ∀ x ∈ loads e, x ∈ stores env.fx.lam e ∨ c.vis x = true) : inScope env c [] e = true :=
  inScope_iff.mpr fun x hx => (h x hx).imp_right Or.inl

theorem offered_of_unrecorded (env : Env) (st : St) (sid : Nat) (e : Expr) (x : Name)
    (hv : st.c.vis x = false) (hB : x ∉ env.B) (hl : x ∈ loads e) (hs : x ∉ stores env.fx.lam e) (hw : x ∉ allW e)
    (hlam : isLam e = false) :
    ∃ r ∈ (runS env st (.expr sid e)).1, (⟨0, Verdict.offer⟩ : Dec) ∈ r.decs := by
  refine ⟨_, List.mem_singleton.mpr rfl, xExprStmt_offer ?_ hB hl hs hlam⟩
  rw [preW_eq]
  exact (Shape.addTop st.c _).not_vis hv (fun h => hw (mem_of_mem_ite h)) (fun h => nomatch h)

/-- names recorded only inside a function body (parameters, locals, nested definitions) are not visible after it: whatever
no context recorded before the `def`, other than the function's own name, a walrus target of its header and names its body
declares `global`, no context records afterwards — at ANY nesting depth of the body -/
theorem C02_scope_pop (env : Env) (st : St) (sid : Nat) (f : Name) (ps : List Name) (dfl : Exprs) (body : Stmts) (decos : Exprs)
    (x : Name) (hv : st.c.vis x = false) (hf : x ≠ f) (hw : x ∉ allWL (dfl.append decos)) (hg : x ∉ globAddsL body) :
    (runS env st (.fdef sid f ps dfl body decos)).2.c.vis x = false :=
  (runS_shape env (.fdef sid f ps dfl body decos) st).not_vis hv (fun h => (List.mem_cons.mp h).elim hf hw) hg

/-- … and the same for a class body -/
theorem C02_scope_pop_class (env : Env) (st : St) (sid : Nat) (cn : Name) (bases : Exprs) (body : Stmts) (decos : Exprs)
    (x : Name) (hv : st.c.vis x = false) (hf : x ≠ cn) (hw : x ∉ allWL (bases.append decos)) (hg : x ∉ globAddsL body) :
    (runS env st (.cdef sid cn bases body decos)).2.c.vis x = false :=
  runS_cdef ▸ C02_scope_pop env st sid cn [] bases body decos x hv hf hw hg

/-- hence a command-looking line after the `def` that reads such a name is offered to command interpretation -/
theorem C02_scope_pop_offers (env : Env) (st : St) (sid sid' : Nat) (f : Name) (ps : List Name) (dfl : Exprs) (body : Stmts)
    (decos : Exprs) (e : Expr) (x : Name) (hv : st.c.vis x = false) (hf : x ≠ f) (hw : x ∉ allWL (dfl.append decos))
    (hg : x ∉ globAddsL body) (hB : x ∉ env.B) (hl : x ∈ loads e) (hs : x ∉ stores env.fx.lam e) (hwe : x ∉ allW e)
    (hlam : isLam e = false) :
    ∃ r ∈ (runS env (runS env st (.fdef sid f ps dfl body decos)).2 (.expr sid' e)).1, (⟨0, Verdict.offer⟩ : Dec) ∈ r.decs :=
  offered_of_unrecorded env _ sid' e x (C02_scope_pop env st sid f ps dfl body decos x hv hf hw hg) hB hl hs hwe hlam

/-- `del x` returns later lines to command interpretation: if after the `del` no context records x any more ("x not otherwise
bound": it was recorded once), then after ANY statements `mid` that do not record x (no binding of x at this level, no
`global x` anywhere inside), an expression statement reading x is offered to command interpretation -/
theorem C02_del_returns (env : Env) (st : St) (x : Name) (sid₁ sid₂ : Nat) (mid : Stmts) (e : Expr)
    (hB : x ∉ env.B)
    (hone : (runS env st (.del sid₁ [x] [])).2.c.vis x = false)
    (hmidT : x ∉ topAddsL mid) (hmidG : x ∉ globAddsL mid)
    (hl : x ∈ loads e) (hs : x ∉ stores env.fx.lam e) (hwe : x ∉ allW e) (hlam : isLam e = false) :
    ∃ r ∈ (runS env (runL env (runS env st (.del sid₁ [x] [])).2 mid).2 (.expr sid₂ e)).1, (⟨0, Verdict.offer⟩ : Dec) ∈ r.decs :=
  offered_of_unrecorded env _ sid₂ e x ((runL_shape env mid _).not_vis hone hmidT hmidG) hB hl hs hwe hlam

/-- the hypothesis "not otherwise bound" holds whenever x is recorded in ONE context only (here: the current one) -/
theorem C02_del_single_record (env : Env) (c : Ctxs) (x : Name) (hx : x ∈ c.top)
    (hother : ∀ l ∈ c.levels.tail, x ∉ l) (hbase : x ∉ c.base) : (c.remove env x).vis x = false := by
  -- ctxremove only shrinks the stack, and it strikes `x` from the current context
  have hs := Shape.remove env c x
  refine Bool.eq_false_iff.mpr fun h => ?_
  rw [vis_iff, levels_eq, top_remove env hx] at h
  rcases h with ⟨l, hl, hxl⟩ | h
  · rcases List.mem_cons.mp hl with rfl | hl
    · exact (mem_filter_ne.mp hxl).2 rfl
    · rcases LowL_mem hs.low l hl hxl with ⟨l0, h0, hx0⟩ | h
      · exact hother l0 h0 hx0
      · nomatch h
  · exact hbase (hs.base x h)

/-! ## witnesses.  Names: 0 = `ls`, 1 = `l`, 2 = `os`, 3 = `n`, 4 = `q`, 5 = `x`, 6 = `id` (a builtin), 7 = `z` -/

namespace C02w
def nm (x : Name) : Expr := .name x
/-- `a -b` / `a.b` / `a < b` …: any form the transformer visits generically -/
def bin (a b : Expr) : Expr := .node .binop (.cons a (.cons b .nil))
def offered (rs : List Rec) (sid : Nat) : Bool := rs.any fun r => r.sid == sid && r.decs.any (·.v == .offer)
def okAt (rs : List Rec) (sid : Nat) : Bool := rs.all fun r => r.sid != sid || (r.ok && r.tame)
def B : List Name := [6]
def code (U : List Name) : Env := ⟨B, U, Fixes.none⟩

/-- `ls = 1; l = 1; ls -l` stays Python; without the bindings it is a command -/
def pBound : Stmts := .cons (.assign 0 (.cons (.name 0) .nil) (.const false)) (.cons (.assign 1 (.cons (.name 1) .nil) (.const false))
  (.cons (.expr 2 (bin (nm 0) (nm 1))) .nil))
def pUnbound : Stmts := .cons (.expr 2 (bin (nm 0) (nm 1))) .nil
/-- `import os.path; os.sep` -/
def pDotted : Stmts := .cons (.imp 0 [⟨2, true, none⟩]) (.cons (.expr 1 (.node .attr (.cons (nm 2) .nil))) .nil)
/-- `if (n := z) > 10 and n < 20: pass` with z in the session -/
def pWalrus : Stmts := .cons (.if_ 0 (.boolop (.cons (bin (.walrus 3 (nm 7)) (.const false)) (.cons (bin (nm 3) (.const false)) .nil)))
  (.cons (.pass 1) .nil) .nil) .nil
/-- `(n := 5); n` -/
def pWalrusStmt : Stmts := .cons (.expr 0 (.walrus 3 (.const false))) (.cons (.expr 1 (nm 3)) .nil)
/-- `x = sorted(z, key=lambda q: -q)` -/
def pLambda : Stmts := .cons (.assign 0 (.cons (.name 5) .nil) (.node .call (.cons (nm 6) (.cons (nm 7) (.cons (.lam [4] (.unary (nm 4))) .nil))))) .nil
/-- `x = any(not q for q in z)` -/
def pComp : Stmts := .cons (.assign 0 (.cons (.name 5) .nil) (.node .call (.cons (nm 6) (.cons (.comp (.unary (nm 4)) [4] (nm 7) .nil) .nil)))) .nil
/-- `x, (n, q) = z; q` -/
def pNested : Stmts := .cons (.assign 0 (.cons (.seq false (.cons (.name 5) (.cons (.seq false (.cons (.name 3) (.cons (.name 4) .nil))) .nil))) .nil) (nm 7))
  (.cons (.expr 1 (nm 4)) .nil)
/-- `del id; id -z` with `id` (a builtin) also a session name -/
def pDelBuiltin : Stmts := .cons (.del 0 [6] []) (.cons (.expr 1 (bin (nm 6) (nm 7))) .nil)
/-- `x = 2; del x; x -z` with x already in the session: stays Python although x is gone -/
def pDelSess : Stmts := .cons (.assign 0 (.cons (.name 5) .nil) (.const false)) (.cons (.del 1 [5] []) (.cons (.expr 2 (bin (nm 5) (nm 7))) .nil))
/-- `x = 2; del (x,); x -z` -/
def pDelSeq : Stmts := .cons (.assign 0 (.cons (.name 5) .nil) (.const false)) (.cons (.del 1 [] [5]) (.cons (.expr 2 (bin (nm 5) (nm 7))) .nil))
/-- `x = 1; del x; x -z`: back to command interpretation -/
def pDelReturns : Stmts := .cons (.assign 0 (.cons (.name 5) .nil) (.const false)) (.cons (.del 1 [5] []) (.cons (.expr 2 (bin (nm 5) (nm 7))) .nil))
/-- `x = 1; try: del x; except id as x: x -z` -/
def pExcept : Stmts := .cons (.assign 0 (.cons (.name 5) .nil) (.const false))
  (.cons (.try_ 1 (.cons (.del 2 [5] []) .nil) (.cons 3 (.cons (nm 6) .nil) (some 5) (.cons (.expr 4 (bin (nm 5) (nm 7))) .nil) .nil) .nil .nil) .nil)
def delReadAt (rs : List Rec) (sid : Nat) : Bool := rs.any fun r => r.sid == sid && r.tame && !r.delRead.isEmpty
/-- `def ls(l): ls -l` then `ls -l` outside: inside Python, outside (l is gone) a command -/
def pScope : Stmts := .cons (.fdef 0 0 [1] .nil (.cons (.expr 1 (bin (nm 0) (nm 1))) .nil) .nil) (.cons (.expr 2 (bin (nm 0) (nm 1))) .nil)
end C02w
open C02w

/-- non-vacuity of C02_python_wins_partial: a statement that looks like a command, with all names bound, under the
theorem's hypotheses — and the same text with the names unbound IS offered (the verdict is not constant) -/
example : (run (code []) pBound).any (fun r => r.sid == 2 && r.ok && r.tame && r.g && !r.decs.isEmpty) = true ∧
    offered (run (code []) pBound) 2 = false ∧ offered (run (code []) pUnbound) 2 = true := by decide

/-- non-vacuity of C02_user_name_shield: a bare `id` is rewritten to `builtin_cmd('id')` — unless the session has a variable `id` -/
example : (run (code []) (.cons (.expr 0 (nm 6)) .nil)).map (·.decs) = [[⟨0, .builtin⟩]] ∧
    (run (code [6]) (.cons (.expr 0 (nm 6)) .nil)).map (fun r => (r.shadow, r.decs)) = [(true, [⟨0, .keep⟩])] := by decide

/-- non-vacuity of C02_python_wins_repaired: on every witness below the repaired transformer keeps what the property says is bound -/
example : ([(pDotted, [], 1), (pWalrus, [7], 0), (pWalrusStmt, [], 1), (pLambda, [7], 0), (pComp, [7], 0), (pNested, [7], 1),
    (pDelBuiltin, [6, 7], 1), (pExcept, [7], 4)] : List (Stmts × List Name × Nat)).all
      (fun w => okAt (run ⟨B, w.2.1, Fixes.all⟩ w.1) w.2.2 && !offered (run ⟨B, w.2.1, Fixes.all⟩ w.1) w.2.2) = true := by decide +kernel

/-- THE FULL STATEMENT WAS FALSE for the code before the repairs (`Fixes.none`) — one witness per mechanism, each the reason
for one fix commit.
`import os.path` records the string "os.path", not `os`: a following `os.sep` is offered to command interpretation. -/
theorem C02_cex_dotted_import : okAt (run (code []) pDotted) 1 = true ∧ offered (run (code []) pDotted) 1 = true := by decide
/-- a walrus below a BoolOp is never recorded: `if (n := z) > 10 and n < 20:` has its second operand offered -/
theorem C02_cex_walrus_in_boolop : okAt (run (code [7]) pWalrus) 0 = true ∧ offered (run (code [7]) pWalrus) 0 = true := by decide
/-- … nor a walrus in an expression statement: `(n := 5)` then `n` -/
theorem C02_cex_walrus_in_expr_stmt : okAt (run (code []) pWalrusStmt) 1 = true ∧ offered (run (code []) pWalrusStmt) 1 = true := by decide
/-- lambda parameters are not names in scope: `sorted(z, key=lambda q: -q)` has `q` offered -/
theorem C02_cex_lambda_param : okAt (run (code [7]) pLambda) 0 = true ∧ offered (run (code [7]) pLambda) 0 = true := by decide
/-- comprehension variables are not in scope for operands inside the element: `any(not q for q in z)` -/
theorem C02_cex_comprehension_var : okAt (run (code [7]) pComp) 0 = true ∧ offered (run (code [7]) pComp) 0 = true := by decide
/-- `x, (n, q) = z` records only the first name of the inner tuple -/
theorem C02_cex_nested_target : okAt (run (code [7]) pNested) 1 = true ∧ offered (run (code [7]) pNested) 1 = true := by decide
/-- `del id` with a session variable `id` strikes the builtin's only record -/
theorem C02_cex_del_builtin : okAt (run (code [6, 7]) pDelBuiltin) 1 = true ∧ offered (run (code [6, 7]) pDelBuiltin) 1 = true := by decide

/-- an `except … as x` name is recorded when the `try` is entered: a `del x` in the body strikes it -/
theorem C02_cex_except_name : okAt (run (code [7]) pExcept) 4 = true ∧ offered (run (code [7]) pExcept) 4 = true := by decide

/-- "deleting the name returns later lines to command interpretation" was false before the repairs when the name is recorded
twice: session variable x, `x = 2; del x; x -z` — the property sends the last line back to command interpretation
(`delRead`), the code keeps it -/
theorem C02_cex_del_session_record :
    delReadAt (run (code [5, 7]) pDelSess) 2 = true ∧ offered (run (code [5, 7]) pDelSess) 2 = false := by decide
/-- … and when the target is written `del (x,)` -/
theorem C02_cex_del_sequence_target :
    delReadAt (run (code [7]) pDelSeq) 2 = true ∧ offered (run (code [7]) pDelSeq) 2 = false := by decide

/-- non-vacuity of C02_del_returns / C02_scope_pop: `x = 1; del x; x -z` is offered again (and was kept before the `del`);
`def ls(l): ls -l` keeps the line inside the body and offers the same text after it -/
example : delReadAt (run (code [7]) pDelReturns) 2 = true ∧ offered (run (code [7]) pDelReturns) 2 = true ∧
    offered (run (code []) pScope) 1 = false ∧ offered (run (code []) pScope) 2 = true := by decide

/-- every one of these disappears when exactly that mechanism is repaired (what the harness uses to attribute a failure) -/
example : offered (run ⟨B, [], { Fixes.none with dotted := true }⟩ pDotted) 1 = false ∧
    offered (run ⟨B, [7], { Fixes.none with walrus := true }⟩ pWalrus) 0 = false ∧
    offered (run ⟨B, [], { Fixes.none with walrus := true }⟩ pWalrusStmt) 1 = false ∧
    offered (run ⟨B, [7], { Fixes.none with lam := true }⟩ pLambda) 0 = false ∧
    offered (run ⟨B, [7], { Fixes.none with comp := true }⟩ pComp) 0 = false ∧
    offered (run ⟨B, [7], { Fixes.none with nested := true }⟩ pNested) 1 = false ∧
    offered (run ⟨B, [6, 7], { Fixes.none with delB := true }⟩ pDelBuiltin) 1 = false ∧
    offered (run ⟨B, [7], { Fixes.none with handler := true }⟩ pExcept) 4 = false ∧
    offered (run ⟨B, [5, 7], { Fixes.none with delSess := true }⟩ pDelSess) 2 = true ∧
    offered (run ⟨B, [7], { Fixes.none with delSeq := true }⟩ pDelSeq) 2 = true := by decide +kernel

/-! ## "the decision is made for the whole input before anything runs" -/

/-- On every path through `Execer.exec` and `Execer.eval` (skeletons regenerated from xonsh/execer.py on every run), builtin
`exec` / `eval` is applied only to a code object that `Execer.compile` made from the WHOLE input text (or that the caller passed
as a code object); `Execer.compile` returns only what builtin `compile` made from the tree `Execer.parse` produced for the whole
text (or None / the empty program); and no other function on the parse path calls `exec` / `eval`.  So the Python-vs-command
decision for every statement, and every syntax error, precede the first executed instruction. -/
theorem C02_parse_before_exec :
    ExecOrder.orderOk false Gen.ExecerOrder.execSk = true ∧ ExecOrder.orderOk false Gen.ExecerOrder.evalSk = true ∧
    ExecOrder.orderOk true Gen.ExecerOrder.compileSk = true ∧ Gen.ExecerOrder.runCallsElsewhere.all (· == 0) = true :=
  ⟨Gen.ExecerOrder.exec_runs_only_compiled_whole_input, Gen.ExecerOrder.eval_runs_only_compiled_whole_input,
   Gen.ExecerOrder.compile_returns_code_of_whole_input, Gen.ExecerOrder.nothing_else_runs⟩

open ExecOrder in
/-- non-vacuity: the obligation rejects a method that runs the first line before compiling the rest, one that compiles only
a part of the input, and one that runs inside the exception handler of the compile -/
example :
    orderOk false (.cons (.run 0) (.cons (.assign 1 (.selfCompile 0)) (.cons (.retRun 1) .nil))) = false ∧
    orderOk false (.cons (.assign 2 .other) (.cons (.assign 1 (.selfCompile 2)) (.cons (.retRun 1) .nil))) = false ∧
    orderOk false (.cons (.tryCatch [1] (.cons (.assign 1 (.selfCompile 0)) .nil) (.cons (.run 1) .nil)) (.cons (.retRun 1) .nil)) = false ∧
    orderOk false (.cons (.assign 1 (.selfCompile 0)) (.cons (.retRun 1) .nil)) = true := by decide

/-! ## the raise wrapper (phase 3) leaves pure Python alone -/

open RaiseWrap in
mutual
/-- `_SubprocChainRaiseWrapper` never touches a tree without a subprocess helper call below it: a pure-Python `a or b`,
`if a and b:` — at any depth, inside or outside another and/or, whatever commands stand elsewhere in the input — comes back
unchanged (in particular it is never wrapped in `subproc_check_boolop`) -/
theorem C02_raise_wrapper_pure : ∀ (t : T) (inside : Bool), hasHelper t = false → visit inside t = t
  | .helper _ _ => fun _ h => nomatch h
  | .boolop vs => fun inside h => by
    show (if inside then T.boolop (visitL true vs) else if hasHelperL (visitL true vs) then _ else _) = _
    rw [C02_raise_wrapper_pureL vs true h, show hasHelperL vs = false from h]
    cases inside <;> rfl
  | .wrapped t => fun inside h => congrArg T.wrapped (C02_raise_wrapper_pure t inside h)
  | .stmtVal t => fun inside h => by
    show T.stmtVal (if isWrapped (visit inside t) then _ else if isRaisingHelper (visit inside t) then _ else _) = _
    rw [C02_raise_wrapper_pure t inside h]
    cases t with
    | helper _ _ => nomatch h
    | _ => rfl
  | .other cs => fun inside h => congrArg T.other (C02_raise_wrapper_pureL cs inside h)
theorem C02_raise_wrapper_pureL : ∀ (ts : Ts) (inside : Bool), hasHelperL ts = false → visitL inside ts = ts
  | .nil => fun _ _ => rfl
  | .cons t ts => fun inside h => by
    have ⟨h1, h2⟩ := Bool.or_eq_false_iff.mp h
    show Ts.cons _ _ = _
    rw [C02_raise_wrapper_pure t inside h1, C02_raise_wrapper_pureL ts inside h2]
end

open RaiseWrap in
/-- non-vacuity: a chain over a command IS wrapped (once, at the outermost and/or), a bare raising command statement too -/
example : visit false (.boolop (.cons (.helper true .nil) (.cons (.boolop (.cons (.other .nil) .nil)) .nil))) =
      .wrapped (.boolop (.cons (.helper true .nil) (.cons (.boolop (.cons (.other .nil) .nil)) .nil))) ∧
    visit false (.stmtVal (.helper true .nil)) = .stmtVal (.wrapped (.helper true .nil)) ∧
    visit false (.stmtVal (.helper false .nil)) = .stmtVal (.helper false .nil) := ⟨by rfl, by rfl, by rfl⟩
