/-
C14 — History garbage collection only ever discards the oldest, unlocked history.

Theorems about the selection functions AS TRANSLATED from /repo on this run (`Gen/HistGc.lean`) against the spec
`HistGc.specRemoved`, and about the hand model of the SQLite rule.
-/
import XonshVerif.Gen.HistGc
import XonshVerif.Lemmas.HistGc
open HistGc Py

namespace C14
abbrev gcCommands := Gen.HistGc.gcCommands
abbrev gcFiles := Gen.HistGc.gcFiles
abbrev gcSeconds := Gen.HistGc.gcSeconds
abbrev gcBytes := Gen.HistGc.gcBytes
end C14
open C14

/-- the translator writes a Python condition as `decide p`, the twins test `p` itself -/
theorem ite_decide {α : Type} {p : Prop} [Decidable p] {a b : α} : (if decide p then a else b) = if p then a else b := by
  simp only [decide_eq_true_eq]

theorem C14_tie_commands_loop1 (hsize : Int) (it : F) (st : Int × Int) :
    Gen.HistGc.gcCommands_loop1 hsize it st = cumBody ncmds hsize it st :=
  ite_decide

theorem C14_tie_commands_loop2 (it : F) (st : Int) :
    Gen.HistGc.gcCommands_loop2 it st = sumBody ncmds it st :=
  rfl

theorem C14_tie_bytes_loop1 (hsize : Int) (it : F) (st : Int × Int) :
    Gen.HistGc.gcBytes_loop1 hsize it st = cumBody fsize hsize it st :=
  ite_decide

theorem C14_tie_bytes_loop2 (it : F) (st : Int) :
    Gen.HistGc.gcBytes_loop2 it st = sumBody fsize it st :=
  rfl

theorem C14_tie_seconds_loop1 (hsize now : Int) (it : F) (st : Int) :
    Gen.HistGc.gcSeconds_loop1 hsize now it st = oldBody hsize now it st :=
  ite_decide

theorem sliceTo_neg_or_all {α : Type} (xs : List α) (n : Nat) :
    (if decide ((n : Int) > 0) then sliceTo xs (-(n : Int)) else xs) = xs.take (xs.length - n) := by
  cases n with
  | zero => simp
  | succ n => rw [if_pos (by simp), sliceTo_negSucc _ _ (Nat.succ_pos n)]

/-- the shared shape of `_xhj_gc_commands_to_rmfiles` / `_xhj_gc_bytes_to_rmfiles` -/
theorem cum_function_is_spec (u : Units) (w : F → Int) (hsize now : Int)
    (hfits : ∀ kept, fits u hsize now kept = decide (sumW w kept ≤ hsize))
    (hover : ∀ removed, specSizeOver u hsize now removed = sumW w removed)
    (files : List F) (hn : ∀ f ∈ files, 0 ≤ w f) :
    (let st1 := loopBreak files.reverse ((0 : Int), (0 : Int)) (cumBody w hsize)
     let n := st1.1
     let removed := if decide (n > 0) then sliceTo files (-n) else files
     (loopBreak removed (0 : Int) (sumBody w), removed))
      = (specSizeOver u hsize now (specRemoved u hsize now files), specRemoved u hsize now files) := by
  simp only [loop_cum, loop_sum, Int.zero_add, sliceTo_neg_or_all, hover,
    cum_is_spec u w hsize now hfits files hn]

theorem C14_refines_commands (hsize now : Int) (files : List F) (hn : ∀ f ∈ files, 0 ≤ ncmds f) :
    gcCommands hsize files =
      (specSizeOver .commands hsize now (specRemoved .commands hsize now files),
       specRemoved .commands hsize now files) := by
  unfold C14.gcCommands Gen.HistGc.gcCommands
  simp only [loopBreak_congr _ _ _ _ (C14_tie_commands_loop1 hsize), loopBreak_congr _ _ _ _ C14_tie_commands_loop2]
  exact cum_function_is_spec .commands ncmds hsize now (fun _ => rfl) (fun _ => rfl) files hn

theorem C14_refines_bytes (hsize now : Int) (files : List F) (hn : ∀ f ∈ files, 0 ≤ fsize f) :
    gcBytes hsize files =
      (specSizeOver .bytes hsize now (specRemoved .bytes hsize now files),
       specRemoved .bytes hsize now files) := by
  unfold C14.gcBytes Gen.HistGc.gcBytes
  simp only [loopBreak_congr _ _ _ _ (C14_tie_bytes_loop1 hsize), loopBreak_congr _ _ _ _ C14_tie_bytes_loop2]
  exact cum_function_is_spec .bytes fsize hsize now (fun _ => rfl) (fun _ => rfl) files hn

/-- `size_over` of `_xhj_gc_seconds_to_rmfiles` -/
theorem seconds_over (hsize now : Int) (r : List F) :
    (if decide ((r.length : Int) > 0) then now - hsize - (idx r 0).1 else 0) = specSizeOver .seconds hsize now r := by
  cases r with
  | nil => rfl
  | cons f r => rw [if_pos (by simp)]; rfl

theorem C14_refines_seconds (hsize now : Int) (files : List F) (hs : SortedTs files) :
    gcSeconds hsize files now =
      (specSizeOver .seconds hsize now (specRemoved .seconds hsize now files),
       specRemoved .seconds hsize now files) := by
  unfold C14.gcSeconds Gen.HistGc.gcSeconds
  simp only [loopBreak_congr _ _ _ _ (C14_tie_seconds_loop1 hsize now), loop_old, sliceTo_nonneg, Int.zero_add]
  rw [← old_is_spec hsize now files hs, ← seconds_over, List.length_take_of_le (oldCount_le hsize now files)]

/-- `_xhj_gc_files_to_rmfiles` — for every limit ≥ 0, *including 0* -/
theorem C14_refines_files (hsize now : Int) (files : List F) (h0 : 0 ≤ hsize) :
    gcFiles hsize files =
      (specSizeOver .files hsize now (specRemoved .files hsize now files),
       specRemoved .files hsize now files) := by
  obtain ⟨n, rfl⟩ := Int.eq_ofNat_of_zero_le h0
  unfold C14.gcFiles Gen.HistGc.gcFiles
  simp only [files_spec, specSizeOver, Py.len]
  by_cases hgt : (files.length : Int) > n
  · have e : (files.length : Int) - n = ((files.length - n : Nat) : Int) := by omega
    simp only [hgt, decide_true, if_true, e, sliceTo_nonneg]
  · have e : files.length - n = 0 := by omega
    simp [hgt, e]

/-! ## the whole GC pass, as the code composes it (dispatch table, lock filter, refuse rule) -/

/-- the dispatch table in `JsonHistoryGC.__init__` maps each canonical unit to its function -/
theorem C14_dispatch_table :
    Gen.HistGc.gcDispatch =
      [("commands", "gcCommands"), ("files", "gcFiles"), ("s", "gcSeconds"), ("b", "gcBytes")] :=
  rfl

def cands (all : List (F × Bool)) : List F :=
  (all.filter (fun p => !Gen.HistGc.gcSkips true p.2)).map (·.1)

def select (u : Units) (hsize now : Int) (cs : List F) : Int × List F :=
  match u with
  | .commands => gcCommands hsize cs
  | .files => gcFiles hsize cs
  | .seconds => gcSeconds hsize cs now
  | .bytes => gcBytes hsize cs

/-- files deleted by `JsonHistoryGC.run` given the (file, locked) pairs of the data dir -/
def codeRun (u : Units) (force : Bool) (hsize now : Int) (all : List (F × Bool)) : List F :=
  let r := select u hsize now (cands all)
  if Gen.HistGc.gcProceeds force r.1 hsize then r.2 else []

/-- what is true of every real data dir: a limit is not negative, counts and sizes are not
negative, and `files.sort()` has put the candidates oldest first -/
structure WF (hsize : Int) (cs : List F) : Prop where
  limit : 0 ≤ hsize
  nonneg : ∀ f ∈ cs, 0 ≤ ncmds f ∧ 0 ≤ fsize f
  sorted : SortedTs cs

theorem C14_select_refines (u : Units) (hsize now : Int) (cs : List F) (wf : WF hsize cs) :
    select u hsize now cs =
      (specSizeOver u hsize now (specRemoved u hsize now cs), specRemoved u hsize now cs) := by
  cases u with
  | commands => exact C14_refines_commands hsize now cs (fun f hf => (wf.nonneg f hf).1)
  | files => exact C14_refines_files hsize now cs wf.limit
  | seconds => exact C14_refines_seconds hsize now cs wf.sorted
  | bytes => exact C14_refines_bytes hsize now cs (fun f hf => (wf.nonneg f hf).2)

theorem cands_eq (all : List (F × Bool)) :
    cands all = (all.filter (fun p => !p.2)).map (·.1) :=
  rfl

theorem codeRun_eq {u : Units} {force : Bool} {hsize now : Int} {all : List (F × Bool)} (wf : WF hsize (cands all)) :
    codeRun u force hsize now all =
      if force || decide (specSizeOver u hsize now (specRemoved u hsize now (cands all)) < hsize)
      then specRemoved u hsize now (cands all) else [] := by
  rw [codeRun, C14_select_refines u hsize now _ wf]; rfl

theorem C14_run_refines (u : Units) (force : Bool) (hsize now : Int) (all : List (F × Bool))
    (wf : WF hsize (cands all)) :
    codeRun u force hsize now all = specRun u force hsize now all := by
  rw [codeRun_eq wf, cands_eq]; rfl

theorem specRemoved_spec (u : Units) (l n : Int) (fs : List F) :
    specRemoved u l n fs = fs.take (specRemoved u l n fs).length ∧
    (∀ j, j < (specRemoved u l n fs).length → fits u l n (fs.drop j) = false) ∧
    ((specRemoved u l n fs).length < fs.length → fits u l n (fs.drop (specRemoved u l n fs).length) = true) := by
  induction fs with
  | nil => exact ⟨rfl, nofun, nofun⟩
  | cons f fs ih =>
    rw [specRemoved]
    split <;> rename_i hfit
    · exact ⟨rfl, nofun, fun _ => hfit⟩
    · refine ⟨by rw [List.length_cons, List.take_succ_cons, ← ih.1], fun j hj => ?_, fun hk => ih.2.2 (Nat.lt_of_succ_lt_succ hk)⟩
      cases j with
      | zero => simpa using hfit
      | succ j => exact ih.2.1 j (Nat.lt_of_succ_lt_succ hj)

/-- strictly oldest-first: what is discarded is a prefix of the oldest-first list -/
theorem C14_prefix (u : Units) (l n : Int) (fs : List F) :
    specRemoved u l n fs = fs.take (specRemoved u l n fs).length :=
  (specRemoved_spec u l n fs).1

/-- the kept set is the LARGEST set of newest files that fits: keeping any more does not fit -/
theorem C14_maximal (u : Units) (l n : Int) (fs : List F) (j : Nat)
    (hj : j < (specRemoved u l n fs).length) : fits u l n (fs.drop j) = false :=
  (specRemoved_spec u l n fs).2.1 j hj

theorem fits_nil (u : Units) (l n : Int) (h0 : 0 ≤ l) : fits u l n [] = true := by
  cases u <;> simp [fits, sumW, h0]

/-- what is kept fits the limit -/
theorem C14_fits (u : Units) (l n : Int) (fs : List F) (h0 : 0 ≤ l) :
    fits u l n (fs.drop (specRemoved u l n fs).length) = true := by
  by_cases hk : (specRemoved u l n fs).length < fs.length
  · exact (specRemoved_spec u l n fs).2.2 hk
  · rw [List.drop_eq_nil_of_le (Nat.le_of_not_lt hk)]
    exact fits_nil u l n h0

/-- nothing is deleted when the history is already within the limit -/
theorem C14_noop_within_limit (u : Units) (l n : Int) (fs : List F)
    (h : fits u l n fs = true) : specRemoved u l n fs = [] := by
  cases fs with
  | nil => rfl
  | cons f fs => simp [specRemoved, h]

theorem C14_code_oldest_first (u : Units) (force : Bool) (hsize now : Int) (all : List (F × Bool))
    (wf : WF hsize (cands all)) :
    ∃ k, codeRun u force hsize now all = (cands all).take k := by
  rw [codeRun_eq wf]
  split
  · exact ⟨_, C14_prefix u hsize now _⟩
  · exact ⟨0, rfl⟩

/-- the file of a live (locked) session is never deleted: every deleted file was listed unlocked -/
theorem C14_locked_never (u : Units) (force : Bool) (hsize now : Int) (all : List (F × Bool))
    (wf : WF hsize (cands all)) (x : F) (hx : x ∈ codeRun u force hsize now all) :
    (x, false) ∈ all := by
  obtain ⟨k, hk⟩ := C14_code_oldest_first u force hsize now all wf
  rw [hk, cands_eq] at hx
  obtain ⟨⟨a, b⟩, hm, rfl⟩ := List.mem_map.1 (List.mem_of_mem_take hx)
  simp only [List.mem_filter, Bool.not_eq_true'] at hm
  exact hm.2 ▸ hm.1

/-- unless forced, GC refuses when the units it would discard reach the limit it keeps -/
theorem C14_refuse (u : Units) (hsize now : Int) (all : List (F × Bool))
    (wf : WF hsize (cands all))
    (hover : specSizeOver u hsize now (specRemoved u hsize now (cands all)) ≥ hsize) :
    codeRun u false hsize now all = [] := by
  rw [codeRun_eq wf, if_neg (by simp; omega)]

/-- when it does run (forced, or below the refuse threshold) the kept candidates fit, and they are
the largest fitting set of newest candidates -/
theorem C14_code_keeps_largest_fitting (u : Units) (hsize now : Int) (all : List (F × Bool))
    (wf : WF hsize (cands all)) :
    let del := codeRun u true hsize now all
    del = (cands all).take del.length ∧
    fits u hsize now ((cands all).drop del.length) = true ∧
    ∀ j, j < del.length → fits u hsize now ((cands all).drop j) = false := by
  have e : codeRun u true hsize now all = specRemoved u hsize now (cands all) := by
    rw [codeRun_eq wf]; rfl
  simp only [e]
  exact ⟨C14_prefix u hsize now _, C14_fits u hsize now _ wf.limit, fun j hj => C14_maximal u hsize now _ j hj⟩

/-! ## non-vacuity: the hypotheses are met by a concrete, non-trivial data dir -/

example : WF 3 (cands [((10, 2, 1, 100), false), ((20, 5, 2, 300), true), ((30, 2, 3, 50), false)]) := by
  refine ⟨by decide, ?_, ?_⟩
  · intro f hf; simp [cands, Gen.HistGc.gcSkips] at hf; rcases hf with rfl | rfl <;> decide
  · simp [cands, Gen.HistGc.gcSkips, SortedTs, ts]

example : specRun .commands true 3 0 [((10, 2, 1, 100), false), ((20, 5, 2, 300), true), ((30, 2, 3, 50), false)]
    = [(10, 2, 1, 100)] := by decide

/-! ## SQLite keep-newest-N (hand model `HistGc.sqlKept` of `_xh_sqlite_delete_records`) -/

theorem sqlThreshold_le {n : Nat} {rows : List Int} {t : Int} (ht : sqlThreshold n rows = some t) :
    ∀ x ∈ (rows.mergeSort (fun a b => decide (b ≤ a))).take n, t ≤ x := by
  have hs : (rows.mergeSort (fun a b => decide (b ≤ a))).Pairwise (fun a b => b ≤ a) :=
    (List.pairwise_mergeSort (le := fun a b => decide (b ≤ a))
      (by intro a b c; simp; omega) (by intro a b; simp; omega) rows).imp (by intro a b; simp)
  obtain ⟨l', hl⟩ := List.getLast?_eq_some_iff.mp ht
  have hp := hs.sublist (List.take_sublist n _)
  rw [hl] at hp ⊢
  intro x hx
  rcases List.mem_append.mp hx with h | h
  · exact (List.pairwise_append.mp hp).2.2 x h t (by simp)
  · simp at h; omega

/-- everything SQLite deletes is strictly older than everything it keeps -/
theorem C14_sql_deleted_older (n : Nat) (rows : List Int) (d k : Int)
    (hd : d ∈ rows) (hnd : d ∉ sqlKept n rows) (hk : k ∈ sqlKept n rows) : d < k := by
  unfold sqlKept at hnd hk
  cases ht : sqlThreshold n rows with
  | none => rw [ht] at hk; cases hk
  | some t =>
    rw [ht] at hnd hk
    simp only [List.mem_filter, hd, true_and, Bool.not_eq_true', decide_eq_false_iff_not, Decidable.not_not] at hnd hk
    omega

/-- nothing is invented: the surviving rows are a sub-list of the table -/
theorem C14_sql_sublist (n : Nat) (rows : List Int) : (sqlKept n rows).Sublist rows := by
  unfold sqlKept
  split
  · exact List.nil_sublist _
  · exact List.filter_sublist

/-- at least the newest N commands survive (all of them when the table is smaller) -/
theorem C14_sql_keeps_at_least (n : Nat) (rows : List Int) :
    min n rows.length ≤ (sqlKept n rows).length := by
  have hperm := List.mergeSort_perm rows (fun a b => decide (b ≤ a))
  have hlen : ((rows.mergeSort (fun a b => decide (b ≤ a))).take n).length = min n rows.length := by
    rw [List.length_take, hperm.length_eq]
  rw [← hlen, sqlKept]
  cases ht : sqlThreshold n rows with
  | none =>
    -- no threshold: N = 0 or the table is empty
    rw [List.getLast?_eq_none_iff.mp ht]
    exact Nat.le_refl 0
  | some t =>
    -- the N newest rows are at or above the threshold, so all of them are among the rows kept
    have hkeep := List.filter_eq_self.mpr fun x hx =>
      show (!decide (x < t)) = true by have := sqlThreshold_le ht x hx; simp; omega
    rw [← (hperm.filter _).length_eq, ← hkeep]
    exact ((List.take_sublist n _).filter _).length_le

/-- a limit of 0 commands keeps nothing (repaired; `sqlite-keep-zero`) -/
theorem C14_sql_zero (rows : List Int) : sqlKept 0 rows = [] := by
  simp [sqlKept, sqlThreshold]

/-- the pinned snapshot kept every row for N = 0 (`tsb < NULL` matches nothing) -/
theorem C14_sql_zero_old_cex : sqlKeptOld 0 [3, 1, 2] = [3, 1, 2] := by decide

example : min 2 ([5, 1, 9, 3] : List Int).length ≤ (sqlKept 2 [5, 1, 9, 3]).length :=
  C14_sql_keeps_at_least 2 [5, 1, 9, 3]
