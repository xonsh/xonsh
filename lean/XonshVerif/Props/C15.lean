/-
C15 — Alias expansion always terminates and preserves the user's arguments.
Theorems over the hand-written model `Alias` (tied to xonsh/aliases.py by xv/props/c15.py).
TERMINATION for every table (cycles included) is the fact that `Alias.evalAlias` is a total Lean
function defined by well-founded recursion without fuel; `C15_bound` restates it as a number.
-/
import XonshVerif.Model.Alias
import XonshVerif.Lemmas.ListFacts
open Alias

/-- unfolding equation of `evalAlias` without dependent conditionals.  Its four branches are the cases of `fun_induction evalAlias`
below: 1 `prepare` is done, 2 the token was seen, 3 the token is no alias, 4 the recursive call. -/
theorem evalAlias_eq (tbl : Tbl) (orc : Oracle) (exp : Tok → Tok) (v : Val) (seen acc : List Tok) (decs : List Nat) :
    evalAlias tbl orc exp v seen acc decs =
      match prepare tbl orc exp v acc decs with
      | .done r d => (r, d, seen)
      | .go token rest acc d =>
        if seen.contains token then (.cmd (token :: rest ++ acc), d, seen)
        else match tbl.lookup token with
          | none => (.cmd (token :: rest ++ acc), d, seen)
          | some v' => evalAlias tbl orc exp v' (token :: seen) (rest ++ acc) d := by
  rw [evalAlias]
  cases prepare tbl orc exp v acc decs with
  | done r d => rfl
  | go token rest acc d =>
    simp only []      -- reduces the `match` on the constructor
    by_cases hs : seen.contains token = true
    · rw [dif_pos hs, if_pos hs]
    · rw [dif_neg hs, if_neg hs]
      split <;> rename_i hl <;> simp only [hl]

/-- the seen set only grows, stays duplicate-free (each alias is expanded at most once per chain),
and the number of expansions is bounded by the number of not-yet-seen table keys -/
theorem C15_once_and_bound (tbl : Tbl) (orc : Oracle) (exp : Tok → Tok) (v : Val) (seen acc : List Tok) (decs : List Nat)
    (hn : seen.Nodup) :
    let r := evalAlias tbl orc exp v seen acc decs
    r.2.2.Nodup ∧ (∀ t ∈ seen, t ∈ r.2.2) ∧ r.2.2.length ≤ seen.length + (unseen tbl seen).length := by
  fun_induction evalAlias tbl orc exp v seen acc decs with
  | case4 v seen acc decs token rest acc' decs' hp hs v' hl ih =>
    have hns : token ∉ seen := by simpa using hs
    obtain ⟨h1, h2, h3⟩ := ih (List.nodup_cons.mpr ⟨hns, hn⟩)
    have hlt := unseen_lt tbl seen token hns (lookup_isSome_mem tbl token v' hl)
    rw [List.length_cons] at h3
    exact ⟨h1, fun t h => h2 t (List.mem_cons_of_mem _ h), by omega⟩
  | _ => exact ⟨hn, fun t h => h, Nat.le_add_right _ _⟩

/-- TERMINATION, as a number: resolving a command expands at most `tbl.length` aliases -/
theorem C15_bound (tbl : Tbl) (orc : Oracle) (exp : Tok → Tok) (key : Tok) (v : Val) (args : List Tok) :
    (evalAlias tbl orc exp v [key] args []).2.2.length ≤ 1 + tbl.length := by
  have h := (C15_once_and_bound tbl orc exp v [key] args [] (by simp)).2.2
  have : (unseen tbl [key]).length ≤ tbl.length := by
    unfold unseen keys
    exact Nat.le_trans (List.length_filter_le _ _) (by simp)
  simp only [List.length_cons, List.length_nil] at h
  omega

def appendRes : Res → List Tok → Res
  | .cmd ws, extra => .cmd (ws ++ extra)
  | .call v a, extra => .call v (a ++ extra)
  | r, _ => r

def isRet : Val → Bool
  | .retcmd _ => true
  | _ => false

/-- no return-command alias anywhere in the table (those receive the arguments and decide themselves) -/
def NoRet (tbl : Tbl) : Prop := ∀ k v, tbl.lookup k = some v → isRet v = false

theorem prepare_append {tbl : Tbl} {orc : Oracle} {exp : Tok → Tok} {v : Val} {acc extra : List Tok} {decs : List Nat}
    (hv : isRet v = false) :
    prepare tbl orc exp v (acc ++ extra) decs =
      match prepare tbl orc exp v acc decs with
      | .done r d => .done (appendRes r extra) d
      | .go t r a d => .go t r (a ++ extra) d := by
  cases v with
  | words ws =>
    -- whatever the decorator loop returns, both sides split its word list in the same way
    simp only [prepare]
    generalize (if ws.length > 1 then stripDecs tbl ws decs else (ws, decs)) = p
    obtain ⟨ws', decs'⟩ := p
    cases ws' <;> rfl
  | callable id => simp [prepare, appendRes]
  | decorator id => simp [prepare, appendRes]
  | retcmd id => simp [isRet] at hv

/-- EXPANSION IS INDEPENDENT OF TRAILING ARGUMENTS, which are appended verbatim, in order, once:
for all tables without return-command aliases (any graph shape), all values, all argument lists. -/
theorem C15_args_appended (tbl : Tbl) (orc : Oracle) (exp : Tok → Tok) (v : Val) (seen acc extra : List Tok) (decs : List Nat)
    (hnr : NoRet tbl) (hv : isRet v = false) :
    evalAlias tbl orc exp v seen (acc ++ extra) decs =
      (appendRes (evalAlias tbl orc exp v seen acc decs).1 extra,
       (evalAlias tbl orc exp v seen acc decs).2.1, (evalAlias tbl orc exp v seen acc decs).2.2) := by
  -- `prepare` passes the extra arguments on, and the tests do not look at them
  fun_induction evalAlias tbl orc exp v seen acc decs with
  | case1 v seen acc decs r decs' hp =>
    rw [evalAlias_eq, prepare_append hv, hp]
  | case2 v seen acc decs token rest acc' decs' hp hs =>
    rw [evalAlias_eq, prepare_append hv, hp]
    simp only [if_pos hs, appendRes, List.cons_append, List.append_assoc]
  | case3 v seen acc decs token rest acc' decs' hp hs hl =>
    rw [evalAlias_eq, prepare_append hv, hp]
    simp only [if_neg hs, hl, appendRes, List.cons_append, List.append_assoc]
  | case4 v seen acc decs token rest acc' decs' hp hs v' hl ih =>
    rw [evalAlias_eq, prepare_append hv, hp]
    simp only [if_neg hs, hl, ← List.append_assoc]
    exact ih (hnr token v' hl)

/-- `aliases.get([key] + args)` is `aliases.get([key])` with `args` appended -/
theorem C15_get_args_appended (tbl : Tbl) (orc : Oracle) (exp : Tok → Tok) (key : Tok) (args : List Tok) (hnr : NoRet tbl) :
    Alias.get tbl orc exp key args =
      (appendRes (Alias.get tbl orc exp key []).1 args, (Alias.get tbl orc exp key []).2.1, (Alias.get tbl orc exp key []).2.2) := by
  unfold Alias.get
  cases hl : tbl.lookup key with
  | none => simp [appendRes]
  | some v =>
    have hv := hnr key v hl
    cases v with
    | retcmd id => simp [isRet] at hv
    | _ => simpa using C15_args_appended tbl orc exp _ [key] [] args [] hnr rfl

/-- a return-command alias at the head receives exactly the user's arguments, whole and in order -/
theorem C15_retcmd_gets_args (tbl : Tbl) (orc : Oracle) (exp : Tok → Tok) (key : Tok) (id : Nat) (args ws : List Tok)
    (hl : tbl.lookup key = some (.retcmd id)) (ho : orc id args = some ws) (hne : ws ≠ []) :
    Alias.get tbl orc exp key args = evalAlias tbl orc exp (.words ws) [key] [] [] := by
  cases ws with
  | nil => exact absurd rfl hne
  | cons a b =>
    unfold Alias.get
    simp only [hl, ho]

theorem stripDecs_prefix (tbl : Tbl) (ws : List Tok) (decs : List Nat) : decs <+: (stripDecs tbl ws decs).2 := by
  induction ws generalizing decs with
  | nil => exact List.prefix_rfl
  | cons t rest ih =>
    simp only [stripDecs]
    split
    · exact (List.prefix_append decs _).trans (ih _)
    · exact List.prefix_rfl

def Alias.Prep.decsOf : Prep → List Nat
  | .done _ d => d
  | .go _ _ _ d => d

theorem prepare_decs_prefix {tbl : Tbl} {orc : Oracle} {exp : Tok → Tok} {v : Val} {acc : List Tok} {decs : List Nat}
    {p : Prep} (hp : prepare tbl orc exp v acc decs = p) : decs <+: p.decsOf := by
  subst hp
  have hw : ∀ ws, decs <+: (if ws.length > 1 then stripDecs tbl ws decs else (ws, decs)).2 := fun ws => by
    split
    · exact stripDecs_prefix tbl ws decs
    · exact List.prefix_rfl
  fun_cases prepare tbl orc exp v acc decs
  case case1 ws _ h => have := hw ws; rwa [h] at this
  case case2 ws _ _ _ h => have := hw ws; rwa [h] at this
  all_goals exact List.prefix_rfl

theorem evalAlias_decs_prefix (tbl : Tbl) (orc : Oracle) (exp : Tok → Tok) (v : Val) (seen acc : List Tok) (decs : List Nat) :
    decs <+: (evalAlias tbl orc exp v seen acc decs).2.1 := by
  fun_induction evalAlias tbl orc exp v seen acc decs with
  | case1 v seen acc decs r decs' hp => exact prepare_decs_prefix hp
  | case2 v seen acc decs token rest acc' decs' hp hs => exact prepare_decs_prefix hp
  | case3 v seen acc decs token rest acc' decs' hp hs hl => exact prepare_decs_prefix hp
  | case4 v seen acc decs token rest acc' decs' hp hs v' hl ih =>
    exact (prepare_decs_prefix hp).trans ih

theorem C15_decorators_in_order (tbl : Tbl) (orc : Oracle) (exp : Tok → Tok) (v : Val) (seen acc : List Tok) (decs : List Nat) :
    ∃ d, (evalAlias tbl orc exp v seen acc decs).2.1 = decs ++ d :=
  (evalAlias_decs_prefix tbl orc exp v seen acc decs).imp fun _ => Eq.symm

theorem stripDecs_congr (tbl tbl' : Tbl) (h : ∀ k, tbl.lookup k = tbl'.lookup k) (ws : List Tok) (decs : List Nat) :
    stripDecs tbl ws decs = stripDecs tbl' ws decs := by
  induction ws generalizing decs with
  | nil => rfl
  | cons t rest ih =>
    simp only [stripDecs, h t]
    split
    · exact ih _
    · rfl

theorem prepare_congr (tbl tbl' : Tbl) (h : ∀ k, tbl.lookup k = tbl'.lookup k) (orc : Oracle) (exp : Tok → Tok) (v : Val)
    (acc : List Tok) (decs : List Nat) : prepare tbl orc exp v acc decs = prepare tbl' orc exp v acc decs := by
  cases v <;> simp [prepare, stripDecs_congr tbl tbl' h]

theorem evalAlias_congr (tbl tbl' : Tbl) (h : ∀ k, tbl.lookup k = tbl'.lookup k) (orc : Oracle) (exp : Tok → Tok) (v : Val)
    (seen acc : List Tok) (decs : List Nat) :
    evalAlias tbl orc exp v seen acc decs = evalAlias tbl' orc exp v seen acc decs := by
  fun_induction evalAlias tbl orc exp v seen acc decs with
  | case1 v seen acc decs r decs' hp =>
    rw [evalAlias_eq tbl' orc exp, ← prepare_congr tbl tbl' h, hp]
  | case2 v seen acc decs token rest acc' decs' hp hs =>
    rw [evalAlias_eq tbl' orc exp, ← prepare_congr tbl tbl' h, hp]
    simp only [if_pos hs]
  | case3 v seen acc decs token rest acc' decs' hp hs hl =>
    rw [evalAlias_eq tbl' orc exp, ← prepare_congr tbl tbl' h, hp]
    simp only [if_neg hs, ← h, hl]
  | case4 v seen acc decs token rest acc' decs' hp hs v' hl ih =>
    rw [evalAlias_eq tbl' orc exp, ← prepare_congr tbl tbl' h, hp]
    simp only [if_neg hs, ← h, hl]
    exact ih

theorem get_congr (tbl tbl' : Tbl) (h : ∀ k, tbl.lookup k = tbl'.lookup k) (orc : Oracle) (exp : Tok → Tok)
    (key : Tok) (args : List Tok) : Alias.get tbl orc exp key args = Alias.get tbl' orc exp key args := by
  unfold Alias.get
  rw [← h key]
  split
  · rfl
  · split <;> simp [evalAlias_congr tbl tbl' h]
  · exact evalAlias_congr tbl tbl' h _ _ _ _ _ _

/-- DEFINITION ORDER IS IRRELEVANT: any permutation of the table gives the same resolution -/
theorem C15_perm_invariant (tbl tbl' : Tbl) (hp : tbl.Perm tbl') (hn : (keys tbl).Nodup) (orc : Oracle) (exp : Tok → Tok)
    (key : Tok) (args : List Tok) : Alias.get tbl orc exp key args = Alias.get tbl' orc exp key args :=
  get_congr tbl tbl' (List.lookup_perm hp hn) orc exp key args

theorem C15_self_ref (tbl : Tbl) (orc : Oracle) (exp : Tok → Tok) (k : Tok) (rest args : List Tok)
    (hl : tbl.lookup k = some (.words (k :: rest))) (hk : exp k = k) :
    Alias.get tbl orc exp k args = (.cmd (k :: rest.map exp ++ args), [], [k]) := by
  have hstrip : ∀ decs, stripDecs tbl (k :: rest) decs = (k :: rest, decs) := by
    intro decs; simp [stripDecs, hl]
  unfold Alias.get
  simp only [hl]
  rw [evalAlias_eq]
  have : prepare tbl orc exp (.words (k :: rest)) args [] = .go k (rest.map exp) args [] := by
    simp [prepare, hstrip, hk]
  rw [this]
  -- `k` is in the seen set: the second branch of `evalAlias_eq` answers, the alias is not expanded again
  exact if_pos (List.contains_iff_mem.mpr List.mem_cons_self)

/-- a chain `a -> b x`, `b -> c y`, user args `u`: alias words accumulate in chain order, then the user's -/
example : Alias.get [(1, .words [2, 10]), (2, .words [3, 11]), (3, .words [3, 12])] (fun _ _ => none) id 1 [20, 21]
    = (.cmd [3, 12, 11, 10, 20, 21], [], [3, 2, 1]) := by
  simp [Alias.get, evalAlias_eq, prepare, stripDecs, List.lookup]

/-- a 2-cycle terminates: `a -> b`, `b -> a` -/
example : (Alias.get [(1, .words [2]), (2, .words [1])] (fun _ _ => none) id 1 [7]).1 = .cmd [1, 7] := by
  simp [Alias.get, evalAlias_eq, prepare, List.lookup]

example : NoRet [(1, .words [2, 10]), (2, .callable 0)] := by
  intro k v h
  simp only [List.lookup] at h
  split at h
  · cases h; rfl
  · split at h
    · cases h; rfl
    · cases h
