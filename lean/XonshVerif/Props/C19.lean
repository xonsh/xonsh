/-
C19 — Cached bytecode never changes what a script does.
Theorems over `CodeCache` instantiated with the freshness test, the switch table and the character
map TRANSLATED from /repo's xonsh/codecache.py on this run (Gen/CodeCache.lean).
-/
import XonshVerif.Model.CodeCache
import XonshVerif.Gen.CodeCache
import XonshVerif.Lemmas.ListFacts
open CodeCache

abbrev fresh := Gen.CodeCache.cacheFresh

/-- a readable, version-matching entry that passes the freshness test was compiled from the current text -/
def Sound (s : St) : Prop :=
  ∀ e, s.cache = some e → e.hdrOk = true → ∀ c, e.payload = .code c → fresh e.mtime s.srcMtime = true →
    c = s.content

def ClockOk (s : St) : Prop := (∀ e, s.cache = some e → e.mtime ≤ s.clock) ∧ s.srcMtime ≤ s.clock

/-- THE CLOCK HYPOTHESIS of the statement ("once the source has a newer modification time"): an edit
is saved at a time strictly later than the cache entry was written -/
def okOp (s : St) : Op → Prop
  | .edit _ => ∀ e, s.cache = some e → e.mtime < s.clock
  | _ => True

theorem fresh_iff {a b : Int} : fresh a b = true ↔ a ≥ b := by
  simp [fresh, Gen.CodeCache.cacheFresh]

theorem runScript_cases (s : St) (u : Bool) :
    (∃ e c, s.cache = some e ∧ fresh e.mtime s.srcMtime = true ∧ e.hdrOk = true ∧ e.payload = .code c ∧
      runScript fresh s u = (s, c)) ∨
    runScript fresh s u = (if u then { s with cache := some ⟨true, .code s.content, s.clock⟩ } else s, s.content) := by
  unfold runScript
  cases u with
  | false => exact .inr rfl
  | true =>
    cases hc : s.cache with
    | none => exact .inr rfl
    | some e =>
      by_cases hf : fresh e.mtime s.srcMtime = true
      · by_cases hh : e.hdrOk = true
        · cases hp : e.payload with
          | code c => exact .inl ⟨e, c, rfl, hf, hh, hp, by simp only [hf, hh, hp, if_true]⟩
          | unreadable => exact .inr (by simp only [hf, hh, hp, if_true])
        · exact .inr (by simp only [hf, hh, if_true, if_false, Bool.false_eq_true])
      · exact .inr (by simp only [hf, if_true, if_false, Bool.false_eq_true])

theorem run_result (s : St) (u : Bool) (h : Sound s) : (runScript fresh s u).2 = s.content := by
  rcases runScript_cases s u with ⟨e, c, hc, hf, hh, hp, hr⟩ | hr <;> rw [hr]
  exact h e hc hh c hp hf

theorem runScript_state (s : St) (u : Bool) :
    (runScript fresh s u).1 = s ∨ (runScript fresh s u).1 = { s with cache := some ⟨true, .code s.content, s.clock⟩ } := by
  rcases runScript_cases s u with ⟨e, c, -, -, -, -, hr⟩ | hr <;> rw [hr]
  · exact .inl rfl
  · cases u <;> simp

theorem spoil_sound (s : St) (f : Entry → Entry) (hm : ∀ e, (f e).mtime = e.mtime)
    (hbad : ∀ e c, (f e).hdrOk = true → (f e).payload ≠ .code c) (hc : ClockOk s) :
    Sound { s with cache := s.cache.map f } ∧ ClockOk { s with cache := s.cache.map f } := by
  refine ⟨fun e he hh c hp _ => ?_, fun e he => ?_, hc.2⟩ <;> obtain ⟨e0, h0, rfl⟩ := Option.map_eq_some_iff.1 he
  · exact absurd hp (hbad e0 c hh)
  · rw [hm]; exact hc.1 e0 h0

theorem step_sound (s : St) (op : Op) (hs : Sound s) (hc : ClockOk s) (ho : okOp s op) :
    Sound (step fresh s op).1 ∧ ClockOk (step fresh s op).1 := by
  cases op with
  | tick d =>
    have hd : s.clock ≤ s.clock + d + 1 := by omega
    exact ⟨hs, fun e he => Int.le_trans (hc.1 e he) hd, Int.le_trans hc.2 hd⟩
  | edit c =>
    -- an entry older than the new time stamp is not fresh
    exact ⟨fun e he _ _ _ hf => absurd (fresh_iff.1 hf) (Int.not_le.2 (ho e he)), hc.1, Int.le_refl _⟩
  | touch =>
    -- an entry that is fresh for the new time stamp was fresh for the old one, which is not later
    exact ⟨fun e he hh c' hp hf => hs e he hh c' hp (fresh_iff.2 (Int.le_trans hc.2 (fresh_iff.1 hf))),
      hc.1, Int.le_refl _⟩
  | run u =>
    simp only [step]
    rcases runScript_state s u with e | e <;> rw [e]
    · exact ⟨hs, hc⟩
    · -- the entry stored was compiled from the current text, at the current time
      refine ⟨fun e' he' hh c' hp hf => ?_, fun e' he' => ?_, hc.2⟩ <;> cases he'
      · exact (Payload.code.inj hp).symm
      · exact Int.le_refl _
  | damage => exact spoil_sound s _ (fun _ => rfl) (fun _ _ _ h => nomatch h) hc
  | foreign => exact spoil_sound s _ (fun _ => rfl) (fun _ _ h => nomatch h) hc
  | removeCache => exact ⟨fun e he => (nomatch he), fun e he => (nomatch he), hc.2⟩

/-- every history in which edits respect the clock hypothesis -/
def Strict : St → List Op → Prop
  | _, [] => True
  | s, op :: rest => okOp s op ∧ Strict (step fresh s op).1 rest

/-- (executed content, content of the source at that moment) for every run of the history -/
def results : St → List Op → List (Nat × Nat)
  | _, [] => []
  | s, op :: rest =>
    match (step fresh s op).2 with
    | some r => (r, s.content) :: results (step fresh s op).1 rest
    | none => results (step fresh s op).1 rest

/-- C19 (main theorem): for EVERY history of edit / touch / run (cache on or off) / damage /
foreign-version / removal / passing time in which edits respect the clock hypothesis, every run —
cached or not — executes the then-current source text -/
theorem C19_fresh (s : St) (ops : List Op) (hs : Sound s) (hc : ClockOk s) (hst : Strict s ops) :
    ∀ p ∈ results s ops, p.1 = p.2 := by
  induction ops generalizing s with
  | nil => nofun
  | cons op rest ih =>
    have hstep := step_sound s op hs hc hst.1
    have hrec := ih _ hstep.1 hstep.2 hst.2
    cases op with
    | run u => exact List.forall_mem_cons.2 ⟨run_result s u hs, hrec⟩
    | _ => exact hrec

def start (content : Nat) : St := ⟨content, 0, none, 0⟩

theorem start_sound (c : Nat) : Sound (start c) ∧ ClockOk (start c) :=
  ⟨by intro e he; simp [start] at he, by intro e he; simp [start] at he, by simp [start]⟩

/-- the clock hypothesis is NEEDED (it is the statement's own proviso, not a finding): an edit saved in
the same clock tick as the cache entry runs the old bytecode -/
theorem C19_same_tick_stale :
    results (start 1) [.run true, .edit 2, .run true] = [(1, 1), (1, 2)] := by decide

/-- with the cache switched off a run is exactly compilation of the current text and touches nothing -/
theorem C19_off_is_uncached (s : St) : runScript fresh s false = (s, s.content) := by
  simp [runScript]

/-- an unreadable (truncated, corrupted) or foreign-version entry is never executed: the run
compiles the current text and rebuilds the entry -/
theorem C19_bad_entry_ignored (s : St) (e : Entry) (hc : s.cache = some e)
    (hbad : e.payload = .unreadable ∨ e.hdrOk = false) :
    runScript fresh s true = ({ s with cache := some ⟨true, .code s.content, s.clock⟩ }, s.content) := by
  rcases runScript_cases s true with ⟨e', c, hc', -, hh, hp, -⟩ | hr
  · obtain rfl := Option.some.inj (hc.symm.trans hc')
    rcases hbad with h | h
    · rw [h] at hp; cases hp
    · rw [h] at hh; cases hh
  · exact hr

/-- `should_use_cache` as documented: scripts (mode exec) are cached iff the command line allows it
(`--no-script-cache` clears `scriptcache`) AND `$XONSH_CACHE_SCRIPTS` or `$XONSH_CACHE_EVERYTHING`;
other code iff `cacheall` or `$XONSH_CACHE_EVERYTHING` -/
theorem C19_switches (isExec sc ca es ee : Bool) :
    Gen.CodeCache.shouldUseCache isExec sc ca es ee =
      (if isExec then (sc || ca) && (es || ee) else ca || ee) :=
  rfl

theorem C19_no_script_cache_flag (es ee : Bool) : Gen.CodeCache.shouldUseCache true false false es ee = false :=
  rfl

theorem C19_env_switches_off (sc ca : Bool) : Gen.CodeCache.shouldUseCache true sc ca false false = false :=
  Bool.and_false _

abbrev tbl := Gen.CodeCache.charMap

def esc (c : Char) : Str := (tbl.lookup c).getD [c]

/-- the model's `escape` with this table is `esc`, character by character (`List.flatMap` unfolded) -/
theorem escape_cons (c : Char) (cs : Str) : escape tbl (c :: cs) = esc c ++ escape tbl cs := rfl

/-- `x ∈ p.2` bounds the witness, so that the statement can be evaluated -/
theorem tbl_codes_shape : ∀ p ∈ tbl, ∃ x ∈ p.2, p.2 = ['_', x] := by decide +kernel
theorem tbl_codes_nodup : (tbl.map (·.2)).Nodup := by decide +kernel
theorem tbl_keys_nodup : (tbl.map (·.1)).Nodup := by decide +kernel
theorem tbl_has_underscore : (tbl.lookup '_').isSome = true := by decide +kernel

theorem esc_cases (c : Char) : (esc c = [c] ∧ c ≠ '_' ∧ tbl.lookup c = none) ∨
    (∃ x, esc c = ['_', x] ∧ tbl.lookup c = some ['_', x]) := by
  unfold esc
  cases h : tbl.lookup c with
  | none =>
    refine .inl ⟨rfl, fun e => ?_, rfl⟩
    have := tbl_has_underscore
    rw [← e, h] at this
    cases this
  | some code =>
    obtain ⟨x, -, hx⟩ := tbl_codes_shape _ (List.mem_of_lookup_eq_some h)
    exact .inr ⟨x, hx, congrArg some hx⟩

theorem code_inj (c d : Char) (x : Char) (hc : tbl.lookup c = some ['_', x]) (hd : tbl.lookup d = some ['_', x]) :
    c = d :=
  congrArg Prod.fst (List.inj_of_nodup_map tbl_codes_nodup _ (List.mem_of_lookup_eq_some hc) _ (List.mem_of_lookup_eq_some hd) rfl)

/-- the escapes form a prefix code -/
theorem esc_append_inj (c d : Char) (r r' : Str) (h : esc c ++ r = esc d ++ r') : c = d ∧ r = r' := by
  rcases esc_cases c with ⟨ec, hcu, _⟩ | ⟨x, ec, lc⟩ <;> rcases esc_cases d with ⟨ed, hdu, _⟩ | ⟨y, ed, ld⟩ <;>
    (rw [ec, ed] at h; simp at h)
  · exact h
  · exact absurd h.1 hcu
  · exact absurd h.1.symm hdu
  · obtain ⟨rfl, hr⟩ := h
    exact ⟨code_inj c d x lc ld, hr⟩

theorem esc_ne_nil (c : Char) : esc c ≠ [] := by
  rcases esc_cases c with ⟨e, _, _⟩ | ⟨x, e, _⟩ <;> rw [e] <;> exact List.cons_ne_nil _ _

theorem escape_inj (s t : Str) (h : escape tbl s = escape tbl t) : s = t := by
  induction s generalizing t with
  | nil =>
    cases t with
    | nil => rfl
    | cons d ds =>
      rw [escape_cons] at h
      exact absurd (List.append_eq_nil_iff.1 h.symm).1 (esc_ne_nil d)
  | cons c cs ih =>
    rw [escape_cons] at h
    cases t with
    | nil => exact absurd (List.append_eq_nil_iff.1 h).1 (esc_ne_nil c)
    | cons d ds =>
      rw [escape_cons] at h
      obtain ⟨rfl, h'⟩ := esc_append_inj c d _ _ h
      rw [ih ds h']

theorem renamer_eq_nil (tag : Str) (p : List Str) (h : renamer tbl tag p = []) : p = [] := by
  match p, h with
  | [], _ => rfl
  | [_], h => cases h
  | _ :: _ :: _, h => cases h

/-- C19 (entries are never shared): two different split paths get different cache file names -/
theorem C19_renamer_injective (tag : Str) (p q : List Str) (h : renamer tbl tag p = renamer tbl tag q) : p = q := by
  induction p generalizing q with
  | nil => exact (renamer_eq_nil tag q h.symm).symm
  | cons w ws ih =>
    cases q with
    | nil => exact renamer_eq_nil tag _ h
    | cons v vs =>
      -- the last component is tagged, the others are not
      cases ws <;> cases vs <;> simp only [renamer, List.cons.injEq] at h
      · rw [escape_inj w v (List.append_cancel_right h.1)]
      · exact absurd (renamer_eq_nil tag _ h.2.symm) (List.cons_ne_nil _ _)
      · exact absurd (renamer_eq_nil tag _ h.2) (List.cons_ne_nil _ _)
      · rw [escape_inj w v h.1, ih _ h.2]

example : escape tbl "A_b.py".toList = "_a__b_.py".toList := by decide +kernel
example : Strict (start 1) [.run true, .tick 0, .edit 2, .run true] := by
  refine ⟨trivial, trivial, ?_, trivial, trivial⟩
  intro e he; simp [step, runScript, start] at he; subst he; decide
