/-
C13 — A crash or I/O failure while saving history never damages what was already saved.
Theorems over `FsTrace`: for EVERY trace obeying the discipline, EVERY crash point and EVERY
partial-write length, each protected history file holds either its previous content or exactly the
content of a completely written, closed temporary file that was renamed onto it.
The discipline itself is checked on traces captured from the real operations (xv/props/c13.py).
-/
import XonshVerif.Model.FsTrace
import XonshVerif.Lemmas.ListFacts
open FsTrace

theorem get_put_ne {d : Disk} {p h : Path} {b : Bytes} (hne : h ≠ p) : get (put d p b) h = get d h :=
  (List.lookup_cons_filter_ne d p h b).trans (if_neg hne)

theorem get_del_ne {d : Disk} {p h : Path} (hne : h ≠ p) : get (del d p) h = get d h :=
  (List.lookup_filter_ne d p h).trans (if_neg hne)

theorem get_put_self {d : Disk} {p : Path} {b : Bytes} : get (put d p b) p = some b :=
  (List.lookup_cons_filter_ne d p p b).trans (if_pos rfl)

theorem discOk_safe {H opened : List Path} {tr : List Ev} (h : discOk H opened tr = true) :
    ∀ e ∈ tr, safeEv H e = true := by
  induction tr generalizing opened with
  | nil => intro e he; cases he
  | cons e rest ih =>
    have : safeEv H e = true ∧ ∃ opened', discOk H opened' rest = true := by
      cases e <;> simp only [discOk, Bool.and_eq_true] at h
      · exact ⟨h.1, _, h.2⟩
      · exact ⟨h.1, _, h.2⟩
      · exact ⟨rfl, _, h⟩
      · exact ⟨h.1.1, _, h.2⟩
      · exact ⟨h.1, _, h.2⟩
    obtain ⟨he, _, hr⟩ := this
    exact List.forall_mem_cons.2 ⟨he, ih hr⟩

theorem ne_of_safe {H : List Path} {h p : Path} (hH : h ∈ H) (hs : (!H.contains p) = true) : h ≠ p := by
  rintro rfl
  simp [hH] at hs

theorem apply_protected (H : List Path) (d : Disk) (e : Ev) (h : Path) (hH : h ∈ H) (hs : safeEv H e = true) :
    get (apply d e) h = get d h ∨ ∃ a c, e = .rename a h ∧ get d a = some c ∧ get (apply d e) h = some c := by
  cases e with
  | create p => exact .inl (get_put_ne (ne_of_safe hH hs))
  | write p b => exact .inl (get_put_ne (ne_of_safe hH hs))
  | close p => exact .inl rfl
  | unlink p => exact .inl (get_del_ne (ne_of_safe hH hs))
  | rename a b =>
    simp only [apply]
    cases ha : get d a with
    | none => exact .inl rfl
    | some c =>
      by_cases hb : h = b
      · subst hb; exact .inr ⟨a, c, rfl, ha, get_put_self⟩
      · exact .inl (by rw [get_put_ne hb, get_del_ne (ne_of_safe hH hs)])

/-- NO PARTIAL STATE IS EVER VISIBLE in a protected file: whatever the crash point and however many
bytes of the interrupted write reached the disk, the file is as after a whole number of events -/
theorem C13_no_partial_write (H : List Path) (d : Disk) (tr : List Ev) (hd : discOk H [] tr = true)
    (k j : Nat) (h : Path) (hH : h ∈ H) :
    get (crash d tr k j) h = get (applyAll d (tr.take k)) h := by
  unfold crash
  cases hk : tr[k]? with
  | none => rfl
  | some e =>
    cases e with
    | write p b =>
      -- the interrupted write is to a file that is not protected
      exact get_put_ne (ne_of_safe hH (discOk_safe hd _ (List.mem_of_getElem? hk)))
    | _ => rfl

/-- the contents a protected file can have after a whole number of events: its old content, or the
complete content some other file had at the moment it was atomically renamed onto it -/
inductive Version (d : Disk) (tr : List Ev) (h : Path) : Option Bytes → Prop where
  | old : Version d tr h (get d h)
  | renamed (i : Nat) (a : Path) (c : Bytes) (hi : tr[i]? = some (.rename a h))
      (hc : get (applyAll d (tr.take i)) a = some c) : Version d tr h (some c)

theorem prefix_version (H : List Path) (d : Disk) (tr : List Ev) (hs : ∀ e ∈ tr, safeEv H e = true)
    (h : Path) (hH : h ∈ H) (k : Nat) : Version d tr h (get (applyAll d (tr.take k)) h) := by
  induction k with
  | zero => exact Version.old
  | succ k ih =>
    rw [List.take_add_one, applyAll, List.foldl_append]
    cases hk : tr[k]? with
    | none => exact ih
    | some e =>
      show Version d tr h (get (apply (applyAll d (tr.take k)) e) h)
      rcases apply_protected H _ e h hH (hs e (List.mem_of_getElem? hk)) with heq | ⟨a, c, rfl, ha, hg⟩
      · rw [heq]; exact ih
      · rw [hg]; exact Version.renamed k a c hk ha

/-- C13 (main theorem): for every trace obeying the discipline, every crash point `k` and every
partial-write length `j`, every protected history file is either its complete previous version or
a complete new version (the whole content of a closed file renamed onto it) — never truncated or
half-written. -/
theorem C13_atomic (H : List Path) (d : Disk) (tr : List Ev) (hd : discOk H [] tr = true)
    (k j : Nat) (h : Path) (hH : h ∈ H) : Version d tr h (get (crash d tr k j) h) := by
  rw [C13_no_partial_write H d tr hd k j h hH]
  exact prefix_version H d tr (discOk_safe hd) h hH k

/-- and a protected file never disappears: if it existed before, it exists at every crash point -/
theorem C13_never_lost (H : List Path) (d : Disk) (tr : List Ev) (hd : discOk H [] tr = true)
    (k j : Nat) (h : Path) (hH : h ∈ H) (hex : (get d h).isSome = true) :
    (get (crash d tr k j) h).isSome = true := by
  have hv := C13_atomic H d tr hd k j h hH
  generalize hg : FsTrace.get (crash d tr k j) h = g at hv
  cases hv with
  | old => exact hex
  | renamed i a c hi hc => rfl

/-! ## counterexample: the in-place rewrite (what `JsonHistoryGC.files` did to unlock a stale file) -/

/-- an in-place rewrite `open(h, "w"); write; close` violates the discipline, and a crash right after
the truncating open leaves the saved history EMPTY -/
theorem C13_cex_in_place :
    let tr := [Ev.create 1, Ev.write 1 [7, 7, 7], Ev.close 1]
    discOk [1] [] tr = false ∧ get (crash [(1, [5, 5, 5, 5])] tr 1 0) 1 = some [] := by
  decide

/-- renaming a file that is still open (data possibly unflushed) violates the discipline too -/
theorem C13_cex_rename_before_close :
    discOk [1] [] [Ev.create 2, Ev.write 2 [7], Ev.rename 2 1, Ev.close 2] = false := by decide

/-! ## non-vacuity: the temp-file-then-replace pattern of `JsonHistoryFlusher.dump` obeys the discipline -/
example : discOk [1] [] [Ev.create 2, Ev.write 2 [7, 7], Ev.close 2, Ev.rename 2 1] = true := by decide
example : get (crash [(1, [5])] [Ev.create 2, Ev.write 2 [7, 7], Ev.close 2, Ev.rename 2 1] 1 1) 1 = some [5] := by
  decide
