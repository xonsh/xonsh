/-
C10 — The typed environment survives the trip to child processes and back.
 * round-trip theorems for the converter/detyper pairs modelled in `Conv` (all values);
 * `C10_every_var`: every variable registered in /repo's DEFAULT_VARS (table regenerated on every
   run) uses a (convert, detype) pair that is classified — proved here, or tied by correspondence;
 * the `_detyped` cache machine: a launch reflects the current values for every history that only
   mutates values through `$VAR.…` (C10_launch_fresh_partial); the full statement is false
   (held reference: C10_cex_held_reference).
-/
import XonshVerif.Model.Conv
import XonshVerif.Gen.EnvVars
open Conv

theorem splitOn_ne_nil (sep : Char) (s : Str) : splitOn sep s ≠ [] := by
  fun_cases splitOn sep s
  all_goals exact List.cons_ne_nil _ _

theorem splitOn_append (sep : Char) (x r : Str) (h : sep ∉ x) (hd : Str) (tl : List Str)
    (hr : splitOn sep r = hd :: tl) : splitOn sep (x ++ r) = (x ++ hd) :: tl := by
  induction x with
  | nil => exact hr
  | cons c cs ih =>
    rw [List.mem_cons, not_or] at h
    simp only [List.cons_append, splitOn, if_neg (Ne.symm h.1), ih h.2]

theorem split_join (sep : Char) (l : List Str) (hne : l ≠ []) (h : ∀ x ∈ l, sep ∉ x) :
    splitOn sep (joinWith sep l) = l := by
  fun_induction joinWith sep l with
  | case1 => exact absurd rfl hne
  | case2 x => simpa using splitOn_append sep x [] (h x (by simp)) [] [] rfl
  | case3 x y rest ih =>
    rw [splitOn_append sep x _ (h x (by simp)) [] (splitOn sep (joinWith sep (y :: rest))) (by simp [splitOn]),
      List.append_nil, ih (by simp) (fun z hz => h z (List.mem_cons_of_mem _ hz))]

theorem joinWith_eq_nil (sep : Char) (l : List Str) (h : joinWith sep l = []) : l = [] ∨ l = [[]] := by
  rcases l with _ | ⟨x, _ | ⟨y, ys⟩⟩
  · exact .inl rfl
  · exact .inr (congrArg (fun y => [y]) h)
  · simp [joinWith] at h

/-- ROUND TRIP for every separator-joined sequence type (`$PATH`-like env paths with ':', csv sets
with ','): for ALL valid values, convert (detype v) = v -/
theorem C10_rt_seq (sep : Char) (l : List Str) (hv : ValidSeq sep l) :
    sepToSeq sep (seqToSep sep l) = l := by
  fun_cases sepToSeq sep (seqToSep sep l) with
  | case1 he =>
    rcases joinWith_eq_nil sep l (List.isEmpty_iff.mp he) with h | h
    · exact h.symm
    · exact absurd h hv.2
  | case2 he => exact split_join sep l (fun e => he (e ▸ rfl)) hv.1

/-- the excluded value really does not round-trip (it is why `ValidSeq` excludes it) -/
theorem C10_rt_seq_excluded (sep : Char) : sepToSeq sep (seqToSep sep [[]]) = [] := by
  simp [sepToSeq, seqToSep, joinWith]

/-- against the `_FALSES` table of the current source -/
def genFalses : List Str := Gen.EnvVars.falses.map String.toList

theorem C10_rt_bool (b : Bool) : toBool genFalses (boolToStr b) = b := by
  cases b <;> decide

theorem C10_rt_bool_or_none (v : Option Bool) : toBoolOrNone genFalses (boolOrNoneToStr v) = v := by
  rcases v with _ | _ | _ <;> decide

/-- how each (convert, detype) pair is covered: `proved:<theorem>` here, `tied` = round-trip checked
against the real functions on generated values by the correspondence (every run), `not-exported` =
no detyper, the variable never reaches a child -/
def classify : String × String → Option String
  | ("to_bool", "bool_to_str") => some "proved:C10_rt_bool"
  | ("to_bool_or_none", "bool_or_none_to_str") => some "proved:C10_rt_bool_or_none"
  | ("str_to_env_path", "env_path_to_str") => some "proved:C10_rt_seq ':'"
  | ("ensure_string", "ensure_string") => some "proved:identity on str"
  | ("to_itself", "ensure_string") => some "proved:identity on str"
  | ("None", "ensure_string") => some "proved:identity on str"
  | ("histcontrol_csv_to_set", "set_to_csv") => some "tied (csv core: C10_rt_seq ',')"
  | ("pathsep_to_upper_seq", "seq_to_upper_pathsep") => some "tied (core: C10_rt_seq ':')"
  | ("int", "str") => some "tied"
  | ("float", "str") => some "tied"
  | ("to_shlvl", "str") => some "tied"
  | ("to_debug", "bool_or_int_to_str") => some "tied"
  | ("to_breakpoint_engine", "str") => some "tied"
  | ("to_logfile_opt", "logfile_opt_to_str") => some "tied"
  | ("to_dynamic_cwd_tuple", "dynamic_cwd_tuple_to_str") => some "tied"
  | ("LsColors.convert", "detype") => some "tied"
  | ("to_history_tuple", "history_tuple_to_str") => some "tied"
  | ("to_completions_display_value", "str") => some "tied"
  | ("to_completion_mode", "str") => some "tied"
  | ("to_int_or_none", "str") => some "tied"
  | ("str_to_abs_path", "abs_path_to_str") => some "tied"
  | ("str_to_path", "path_to_str") => some "tied"
  | ("to_tok_color_dict", "dict_to_str") => some "tied"
  | ("VarPattern.to_var_pattern", "VarPattern.detype_var_pattern") => some "tied"
  | ("locale_convert.<locals>.lc_converter", "ensure_string") => some "tied"
  | ("SubprocessSetting.<lambda>", "ensure_string") => some "tied"
  | ("ptk2_color_depth_setter", "ensure_string") => some "tied"
  | ("to_ptk_cursor_shape", "to_ptk_cursor_shape_display_value") => some "tied"
  | ("intensify_colors_on_win_setter", "bool_to_str") => some "tied"
  | (_, "None") => some "not-exported"
  | _ => none

/-- a variable registered with a converter pair nobody has looked at breaks this obligation -/
theorem C10_every_var :
    Gen.EnvVars.vars.all (fun v => (classify (v.2.2.1, v.2.2.2)).isSome) = true := by
  decide +kernel

/-- the preset types of `Env.register(type=…)` too -/
theorem C10_every_ensurer :
    Gen.EnvVars.ensurers.all (fun v => (classify (v.2.2.1, v.2.2.2)).isSome) = true := by
  decide +kernel

open DetypeM

def CacheOk (s : St) : Prop := ∀ c, s.cache = some c → c = fresh s

def disciplined : Op → Bool
  | .mutateHeld _ _ => false
  | _ => true

theorem fresh_cache (s : St) (c : Option (List (Key × Detyped))) : fresh { s with cache := c } = fresh s := rfl

theorem cacheOk_of_none {s : St} (h : s.cache = none) : CacheOk s := fun c hc => by
  rw [h] at hc; cases hc

theorem step_cacheOk (s : St) (op : Op) (hd : disciplined op = true) (h : CacheOk s) : CacheOk (step s op).1 := by
  cases op with
  | setStr k x => exact cacheOk_of_none rfl
  | setList k l => exact cacheOk_of_none rfl
  | del k | getitem k | mutateVia k x =>
    simp only [step]
    split
    · exact cacheOk_of_none rfl
    · exact h
  | mutateHeld r x => cases hd
  | detype =>
    simp only [step]
    split
    · exact h
    · intro c hc; cases hc; exact (fresh_cache s _).symm

theorem run_cacheOk (s : St) (ops : List Op) (hd : ∀ op ∈ ops, disciplined op = true) (h : CacheOk s) :
    CacheOk (run s ops) := by
  fun_induction run s ops with
  | case1 => exact h
  | case2 s op rest ih =>
    exact ih (fun o ho => hd o (List.mem_cons_of_mem _ ho)) (step_cacheOk s op (hd op (by simp)) h)

theorem detype_fresh (s : St) (h : CacheOk s) : (step s .detype).2 = some (fresh s) := by
  simp only [step]
  split
  · rename_i c hc; rw [h c hc]
  · rfl

/-- PARTIAL: for every history of set / delete / read / `$VAR.append(…)`-style mutation / earlier
launches, the mapping a launch hands to the child is computed from the values at launch time -/
theorem C10_launch_fresh_partial (ops : List Op) (hd : ∀ op ∈ ops, disciplined op = true) :
    (step (run init ops) .detype).2 = some (fresh (run init ops)) :=
  detype_fresh _ (run_cacheOk init ops hd (cacheOk_of_none rfl))

/-- KNOWN FINDING `held-reference-mutation`: `p = $PATH; launch; p.append(2); launch` — the second
child receives the stale `[1]` although `$PATH` is `[1, 2]` -/
theorem C10_cex_held_reference :
    let s := run init [.setList 0 [1], .detype, .mutateHeld 0 2]
    (step s .detype).2 = some [(0, .list [1])] ∧ fresh s = [(0, .list [1, 2])] := by
  decide

example : ValidSeq ':' ["/usr/bin".toList, [], "/bin".toList] := by
  refine ⟨?_, by simp⟩
  intro x hx; simp at hx; rcases hx with rfl | rfl | rfl <;> decide
