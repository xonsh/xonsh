/-
C16 — `$PWD`, the process directory and the directory stack stay in step.
Theorems over the hand-written model `DirStack` (tied to xonsh/dirstack.py by xv/props/c16.py).
All statements quantify over every state (hence every history), every configuration and every
file-system oracle; `C16_sync` is the induction over arbitrary op sequences.
-/
import XonshVerif.Model.DirStack
open DirStack

/-- `$PWD` names the process's working directory -/
def Sync (c : Cfg) (s : St) : Prop := s.cwd = real c s.pwd

abbrev Stays (s s' : St) : Prop := s'.pwd = s.pwd ∧ s'.oldpwd = s.oldpwd ∧ s'.cwd = s.cwd

/-- `s'` is `s` after at most one successful `_change_working_directory`, the stack aside: all that
a command can do to `$PWD`, `$OLDPWD` and the process directory -/
def Moved (c : Cfg) (s s' : St) : Prop :=
  Stays s s' ∨ (s'.oldpwd = some s.pwd ∧ s'.cwd = real c s'.pwd)

theorem Moved.sync {c : Cfg} {s s' : St} (h : Moved c s s') (hs : Sync c s) : Sync c s' := by
  rcases h with ⟨hp, _, hc⟩ | ⟨_, hc⟩
  · unfold Sync; rw [hp, hc]; exact hs
  · exact hc

theorem Moved.oldpwd {c : Cfg} {s s' : St} (h : Moved c s s') (hne : s'.pwd ≠ s.pwd) :
    s'.oldpwd = some s.pwd := by
  rcases h with ⟨hp, _, _⟩ | ⟨ho, _⟩
  · exact absurd hp hne
  · exact ho

theorem Stays.then_moved {c : Cfg} {s s0 s' : St} (hs : Stays s s0) (h : Moved c s0 s') : Moved c s s' := by
  rcases h with ⟨hp, ho, hc⟩ | ⟨ho, hc⟩
  · exact .inl ⟨hp.trans hs.1, ho.trans hs.2.1, hc.trans hs.2.2⟩
  · exact .inr ⟨ho.trans (congrArg some hs.1), hc⟩

theorem changeDir_moved (c : Cfg) (s : St) (d : Path) (f : Bool) : Moved c s (changeDir c s d f) := by
  fun_cases changeDir c s d f with
  | case1 => exact .inr ⟨rfl, rfl⟩
  | case2 => exact .inl ⟨rfl, rfl, rfl⟩

structure Settled (c : Cfg) (s : St) (r : St × Out) : Prop where
  unchanged : r.2.rc = 1 → r.1 = s
  moved : Moved c s r.1

theorem Settled.same {c : Cfg} {s : St} {o : Out} : Settled c s (s, o) :=
  ⟨fun _ => rfl, .inl ⟨rfl, rfl, rfl⟩⟩

theorem Settled.ok {c : Cfg} {s s' : St} (h : Moved c s s') : Settled c s (s', .ok) :=
  ⟨fun h => absurd h Nat.zero_ne_one, h⟩

theorem Settled.ite {c : Cfg} {s : St} {p : Prop} [Decidable p] {o : Out} {r : St × Out}
    (h : Settled c s r) : Settled c s (if p then (s, o) else r) := by
  split
  · exact .same
  · exact h

theorem pushd_settled (c : Cfg) (s : St) (a : PArg) (d : Bool) : Settled c s (pushd c s a d) := by
  unfold pushd
  -- reduces the `let`s of the unfolded body, so that `split` sees the outer `match` (here and below)
  simp only []
  split
  · exact .same
  · rename_i newPwd stack _
    cases newPwd with
    | none => exact .ok (.inl ⟨rfl, rfl, rfl⟩)
    | some np =>
      cases d with
      | true => exact .ok (changeDir_moved c { s with stack := s.pwd :: stack } np false)
      | false => exact .ok (.inl ⟨rfl, rfl, rfl⟩)

theorem pushd_nocd (c : Cfg) (s : St) (a : PArg) : Stays s (pushd c s a false).1 := by
  unfold pushd
  simp only []
  split
  · exact ⟨rfl, rfl, rfl⟩
  · rename_i newPwd _ _
    cases newPwd <;> exact ⟨rfl, rfl, rfl⟩

theorem popd_settled (c : Cfg) (s : St) (a : PArg) (d : Bool) : Settled c s (popd c s a d) := by
  unfold popd
  simp only []
  split
  · exact .same
  · rename_i newPwd stack _
    cases newPwd with
    | none => exact .ok (.inl ⟨rfl, rfl, rfl⟩)
    | some np =>
      cases d with
      | true => exact .ok (changeDir_moved c { s with stack := stack } np false)
      | false => exact .ok (.inl ⟨rfl, rfl, rfl⟩)

theorem cd_settled (c : Cfg) (s : St) (a : CdArg) (f : Bool) : Settled c s (cd c s a f) := by
  unfold cd
  simp only []
  split
  · exact .same
  · rename_i d _
    refine .ite (.ite (.ite (.ok ?_)))
    -- AUTO_PUSHD pushes without changing directory, so the one change is that of `changeDir`
    split
    · exact (pushd_nocd c s (.path s.pwd)).then_moved (changeDir_moved c _ d f)
    · exact changeDir_moved c s d f

/-- `dirs` never changes a directory; only `dirs -c` touches the stack (it empties it) -/
theorem C16_dirs_readonly (c : Cfg) (s : St) (a : DArg) :
    (dirs c s a).1.pwd = s.pwd ∧ (dirs c s a).1.cwd = s.cwd ∧ (dirs c s a).1.oldpwd = s.oldpwd ∧
    (a ≠ .clear → (dirs c s a).1 = s) := by
  have same : ∀ o : Out, (s, o).1.pwd = s.pwd ∧ (s, o).1.cwd = s.cwd ∧ (s, o).1.oldpwd = s.oldpwd ∧
      (a ≠ .clear → (s, o).1 = s) := fun _ => ⟨rfl, rfl, rfl, fun _ => rfl⟩
  unfold dirs
  simp only []
  split
  · exact ⟨rfl, rfl, rfl, fun h => absurd rfl h⟩
  · exact same _
  · exact same _
  all_goals
    split
    · exact same _
    · split <;> exact same _

theorem dirs_settled (c : Cfg) (s : St) (a : DArg) : Settled c s (dirs c s a) := by
  obtain ⟨hp, hc, ho, hs⟩ := C16_dirs_readonly c s a
  refine ⟨fun h => hs (fun ha => ?_), .inl ⟨hp, ho, hc⟩⟩
  subst ha
  exact absurd h Nat.zero_ne_one

/-- symlink targets are not themselves symlinks of the model (`realpath` is idempotent) -/
def RealIdem (c : Cfg) : Prop := ∀ p, real c (real c p) = real c p

/-- the post-command resynchronisation leaves a state that is in step untouched — in particular
it never overwrites `$OLDPWD` when the directory was entered through a symlink -/
theorem C16_fix_cwd_noop (c : Cfg) (s : St) (hr : RealIdem c) (h : Sync c s) : fixCwd c s = s := by
  unfold fixCwd
  have : real c s.cwd = real c s.pwd := by rw [h, hr]
  simp [this]

theorem fixCwd_oldpwd (c : Cfg) (s : St) : (fixCwd c s).pwd ≠ s.pwd → (fixCwd c s).oldpwd = some s.pwd := by
  fun_cases fixCwd c s with
  | case1 => exact fun _ => rfl
  | case2 => exact fun h => absurd rfl h

/-- after something changed the process directory behind the shell's back, the resynchronisation
makes `$PWD` name it again and remembers where we were in `$OLDPWD` -/
theorem C16_fix_cwd_resync (c : Cfg) (s : St) (hr : RealIdem c) (hphys : real c s.cwd = s.cwd) :
    Sync c (fixCwd c s) ∧ ((fixCwd c s).pwd ≠ s.pwd → (fixCwd c s).oldpwd = some s.pwd) := by
  refine ⟨?_, fixCwd_oldpwd c s⟩
  fun_cases fixCwd c s with
  | case1 => exact hphys.symm
  | case2 he => exact hphys.symm.trans (Decidable.not_not.mp (mt bne_iff_ne.mpr he))

/-- operations of the shell itself (everything except an external chdir) -/
def DirStack.Op.internal : Op → Bool
  | .extChdir _ => false
  | _ => true

theorem step_sync (c : Cfg) (s : St) (op : Op) (hr : RealIdem c) (hi : op.internal = true) (h : Sync c s) :
    Sync (step c s op).1 (step c s op).2.1 := by
  cases op with
  | fixCwd => simp only [step]; rw [C16_fix_cwd_noop c s hr h]; exact h
  | extChdir p => cases hi
  | cd a f => exact (cd_settled c s a f).moved.sync h
  | pushd a d => exact (pushd_settled c s a d).moved.sync h
  | popd a d => exact (popd_settled c s a d).moved.sync h
  | dirs a => exact (dirs_settled c s a).moved.sync h
  | _ => exact h

theorem step_links (c : Cfg) (s : St) (op : Op) : (step c s op).1.links = c.links := by
  cases op <;> rfl

/-- C16 (main invariant): after ANY sequence of cd / pushd / popd / dirs commands, configuration
changes and directories appearing or disappearing, `$PWD` names the process's working directory -/
theorem C16_sync (c : Cfg) (s : St) (ops : List Op) (hr : RealIdem c)
    (hi : ∀ op ∈ ops, op.internal = true) (h : Sync c s) :
    Sync (run c s ops).1 (run c s ops).2 := by
  induction ops generalizing c s with
  | nil => exact h
  | cons op rest ih =>
    simp only [run]
    have hr' : RealIdem (step c s op).1 := by
      intro p; unfold real; rw [step_links]; exact hr p
    exact ih _ _ hr' (fun o ho => hi o (List.mem_cons_of_mem _ ho))
      (step_sync c s op hr (hi op (by simp)) h)

/-- in every step that changes `$PWD`, `$OLDPWD` becomes the directory we came from -/
theorem C16_oldpwd (c : Cfg) (s : St) (op : Op) (h : (step c s op).2.1.pwd ≠ s.pwd) :
    (step c s op).2.1.oldpwd = some s.pwd := by
  cases op with
  | cd a f => exact (cd_settled c s a f).moved.oldpwd h
  | pushd a d => exact (pushd_settled c s a d).moved.oldpwd h
  | popd a d => exact (popd_settled c s a d).moved.oldpwd h
  | dirs a => exact (dirs_settled c s a).moved.oldpwd h
  | extChdir p =>
    simp only [step] at h
    split at h <;> exact absurd rfl h
  | fixCwd => exact fixCwd_oldpwd c s h
  | _ => exact absurd rfl h

/-- a failed operation (rc 1) changes nothing -/
theorem C16_error_unchanged (c : Cfg) (s : St) (op : Op) (h : (step c s op).2.2.rc = 1) :
    (step c s op).1 = c ∧ (step c s op).2.1 = s := by
  cases op with
  | cd a f => exact ⟨rfl, (cd_settled c s a f).unchanged h⟩
  | pushd a d => exact ⟨rfl, (pushd_settled c s a d).unchanged h⟩
  | popd a d => exact ⟨rfl, (popd_settled c s a d).unchanged h⟩
  | dirs a => exact ⟨rfl, (dirs_settled c s a).unchanged h⟩
  | _ => exact absurd h Nat.zero_ne_one

theorem truncate_le (c : Cfg) (l : List Path) (h0 : 0 ≤ c.size) : ((truncate c l).length : Int) ≤ c.size := by
  unfold truncate
  by_cases h : (l.length : Int) > c.size
  · simp only [h, if_true, ge_iff_le, h0, List.length_take]
    omega
  · simp only [h, if_false]; omega

/-- the stack is capped after every successful pushd -/
theorem C16_cap (c : Cfg) (s : St) (a : PArg) (d : Bool) (h0 : 0 ≤ c.size)
    (hok : (pushd c s a d).2 = .ok) : ((pushd c s a d).1.stack.length : Int) ≤ c.size := by
  revert hok
  unfold pushd
  simp only []
  split
  · intro h; cases h
  · intro _; exact truncate_le c _ h0

theorem chdirOk_iff (c : Cfg) (s : St) (p : Path) : chdirOk c s p = true ↔ kind c s p = .dir := by
  simp [chdirOk]
theorem kind_fs (c : Cfg) (s s' : St) (p : Path) (h : s'.fs = s.fs) : kind c s' p = kind c s p := by
  rw [kind, h]; rfl
theorem chdirOk_fs (c : Cfg) (s s' : St) (p : Path) (h : s'.fs = s.fs) : chdirOk c s' p = chdirOk c s p := by
  rw [chdirOk, kind_fs c s s' p h]; rfl
theorem truncate_id (c : Cfg) (l : List Path) (h : ¬ ((l.length : Int) > c.size)) : truncate c l = l := by
  simp [truncate, h]

theorem changeDir_ok (c : Cfg) (s : St) (d : Path) (h : kind c s d = .dir) :
    changeDir c s d false = { s with pwd := d, oldpwd := some s.pwd, cwd := real c d } := by
  simp [changeDir, (chdirOk_iff c s d).mpr h]

theorem changeDir_stack (c : Cfg) (s : St) (d : Path) (f : Bool) :
    (changeDir c s d f).stack = s.stack ∧ (changeDir c s d f).fs = s.fs := by
  fun_cases changeDir c s d f with
  | case1 => exact ⟨rfl, rfl⟩
  | case2 => exact ⟨rfl, rfl⟩

theorem pushd_path (c : Cfg) (s : St) (p : Path) (hp : kind c s p = .dir) :
    pushd c s (.path p) true =
      ({ s with pwd := p, oldpwd := some s.pwd, cwd := real c p, stack := truncate c (s.pwd :: s.stack) }, .ok) := by
  have hisdir : isDir c s p = true := by simp [isDir, hp]
  unfold pushd
  simp only [hisdir, if_true]
  rw [changeDir_ok c { s with stack := s.pwd :: s.stack } p hp]

/-- `pushd d` followed by `popd` restores the directory and the stack -/
theorem C16_push_pop (c : Cfg) (s : St) (p : Path)
    (hp : kind c s p = .dir) (hpwd : kind c s s.pwd = .dir) (hroom : (s.stack.length : Int) < c.size) :
    let s1 := (pushd c s (.path p) true).1
    let s2 := (popd c s1 .none true).1
    (pushd c s (.path p) true).2 = .ok ∧ s1.pwd = p ∧
    s2.pwd = s.pwd ∧ s2.stack = s.stack ∧ s2.cwd = real c s.pwd ∧ s2.oldpwd = some p := by
  have hnt : truncate c (s.pwd :: s.stack) = s.pwd :: s.stack := truncate_id c _ (by simp; omega)
  simp only [pushd_path c s p hp, hnt]
  unfold popd
  simp only []
  rw [changeDir_ok c { s with pwd := p, oldpwd := some s.pwd, cwd := real c p, stack := s.stack } s.pwd hpwd]
  exact ⟨trivial, trivial, rfl, rfl, rfl, rfl⟩

/-- position in the `dirs` listing `[$PWD] + DIRSTACK` that `+N` (`plus`) or `-N` denotes -/
def listingIndex (c : Cfg) (len : Nat) (plus : Bool) (n : Nat) : Nat :=
  if plus != c.pushdMinus then n else len - n

/-- `+N` counts from the left of the listing and `-N` from the right (swapped by `$PUSHD_MINUS`);
entry 0 is the current directory itself, entry k+1 is `DIRSTACK[k]` -/
theorem C16_index (c : Cfg) (len : Nat) (plus : Bool) (n : Nat) (hn : n ≤ len) :
    match stackIndex c len plus n with
    | none => listingIndex c len plus n = 0
    | some i => listingIndex c len plus n = i + 1 ∧ i < len := by
  unfold stackIndex listingIndex
  by_cases hb : (plus != c.pushdMinus) = true
  · simp only [hb, if_true]
    by_cases h0 : n = 0
    · simp [h0]
    · simp [h0]; omega
  · simp only [hb]
    by_cases h0 : n = len
    · simp [h0]
    · simp [h0]; omega

/-- what a successful `pushd ±N` does to the listing: the selected entry moves to the top, the
current directory goes below it, every other entry keeps its place — nothing is lost or invented -/
theorem C16_pushd_n_listing (c : Cfg) (s : St) (plus : Bool) (n i : Nat) (t : Path)
    (hn : n ≤ s.stack.length) (hi : stackIndex c s.stack.length plus n = some i)
    (ht : s.stack[i]? = some t) (hdir : kind c s t = .dir) (hroom : (s.stack.length : Int) ≤ c.size) :
    let a := if plus then PArg.plus n else PArg.minus n
    (pushd c s a true).2 = .ok ∧
    (pushd c s a true).1.pwd = t ∧
    (pushd c s a true).1.stack = s.pwd :: s.stack.eraseIdx i := by
  obtain ⟨hlt, _⟩ := List.getElem?_eq_some_iff.mp ht
  have hnt : truncate c (s.pwd :: s.stack.eraseIdx i) = s.pwd :: s.stack.eraseIdx i :=
    truncate_id c _ (by simp [List.length_eraseIdx, hlt]; omega)
  have hng : ¬ (n > s.stack.length) := Nat.not_lt.mpr hn
  cases plus <;>
  · simp only [if_true, Bool.false_eq_true, if_false]
    unfold pushd
    simp only [hng, if_false, hi, ht, removeNth]
    rw [changeDir_ok c { s with stack := s.pwd :: s.stack.eraseIdx i } t hdir]
    exact ⟨trivial, rfl, hnt⟩

/-- `popd ±N` (N ≠ the current directory) removes exactly that entry and does not change directory -/
theorem C16_popd_removes_nth (c : Cfg) (s : St) (plus : Bool) (n i : Nat) (d : Bool)
    (hn : n ≤ s.stack.length) (hi : stackIndex c s.stack.length plus n = some i) (hne : s.stack ≠ []) :
    let a := if plus then PArg.plus n else PArg.minus n
    (popd c s a d) = ({ s with stack := s.stack.eraseIdx i }, .ok) := by
  have hng : ¬ (n > s.stack.length) := Nat.not_lt.mpr hn
  have hem : s.stack.isEmpty = false := List.isEmpty_eq_false_iff.mpr hne
  cases plus <;>
  · simp only [if_true, Bool.false_eq_true, if_false]
    unfold popd
    simp [hng, hi, hem, removeNth]

def wCfg : Cfg := ⟨false, false, 20, 0, [(6, 2)]⟩
def wFs : List (Path × Kind) := [(0, .dir), (1, .dir), (2, .dir), (3, .dir), (4, .dir), (5, .file)]

/-- KNOWN FINDING `chdir-fails-after-stack-rewrite`: the target of `pushd +1` was removed; the command
returns rc 0, `$PWD` is unchanged, and the stack has been rewritten (`[3, 0]` became `[1, 0]`). -/
theorem C16_cex_chdir_fail :
    let s : St := ⟨1, some 3, [3, 0], 1, setKind wFs 3 .missing⟩
    let r := pushd wCfg s (.plus 1) true
    r.2 = .ok ∧ r.1.pwd = s.pwd ∧ r.1.stack = [1, 0] ∧ r.1.stack ≠ s.stack := by
  decide

/-- the statement the property asks for ("a failed operation changes nothing") restricted to what
IS true: when the selected target can be entered, pushd ends in it -/
theorem C16_pushd_enters_partial (c : Cfg) (s : St) (p : Path) (hp : kind c s p = .dir) :
    (pushd c s (.path p) true).1.pwd = p ∧ (pushd c s (.path p) true).2 = .ok := by
  rw [pushd_path c s p hp]
  exact ⟨rfl, rfl⟩

/-- KNOWN FINDING `pushd-n-is-not-a-rotation`: on the listing `[3, 2, 1, 0]`, `pushd +2` yields
`[1, 3, 2, 0]`; the documented rotation is `[1, 0, 3, 2]`. -/
theorem C16_cex_rotation :
    let s : St := ⟨3, some 2, [2, 1, 0], 3, wFs⟩
    let r := pushd wCfg s (.plus 2) true
    r.1.pwd :: r.1.stack = [1, 3, 2, 0] ∧ rotateListing (s.pwd :: s.stack) 2 = [1, 0, 3, 2] := by
  decide

/-- what does hold of `pushd ±N` w.r.t. the documented rotation: the SAME entry ends up on top -/
theorem C16_rotation_top_partial (l : List Path) (k : Nat) (t : Path) (h : l[k]? = some t) :
    (rotateListing l k).head? = some t := by
  unfold rotateListing
  rw [List.head?_append, List.head?_drop, h]
  rfl

/-! ## non-vacuity -/

example : Sync wCfg ⟨6, none, [], 2, wFs⟩ := by unfold Sync; decide
example : RealIdem wCfg := by
  intro p; unfold real wCfg
  by_cases h : p = 6
  · subst h; decide
  · have : (p == 6) = false := by simpa using h
    simp [List.lookup, this]
example : kind wCfg ⟨0, none, [], 0, wFs⟩ 6 = .dir := by decide
example : (run wCfg ⟨0, none, [], 0, wFs⟩ [.pushd (.path 1) true, .pushd (.path 6) true, .cd .dash false]).2.pwd = 1 := by
  decide
