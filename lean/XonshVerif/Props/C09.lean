/-
C09 — Running a command leaves the shell session as it found it.
Theorems over the resource ledger `FdLedger` (tied to xonsh/procs/{specs,pipelines,pipes,posix,proxies}.py by
xv/props/c09.py).  Statements are at the level of a SESSION: a ledger `L0` of whatever is open, a signal state `S`,
and the command running as generation `g` (names of earlier generations are never touched).
-/
import XonshVerif.Lemmas.FdLedger
open FdLedger

/-- the session holds nothing that carries the name of generation g -/
def Foreign (g : Nat) (L0 : List (Nat × Res)) : Prop := ∀ r ∈ L0, r.1 ≠ g

/-- C09 (ledger), general form: for EVERY pipeline — any number of stages of any kind, any redirect lists (unopenable,
conflicting, colliding with a pipe), any capture form, whichever stage fails in whichever phase — if the pipeline is ended
and (unless the `teardown` repair is in) no stage other than the first fails to start, then after the command (exception
dropped) the session's ledger is what it was, plus at most the un-waited child of a plain-`Popen` last stage, and that only
when the body of `_end` was left early. -/
theorem C09_ledger (v : Variant) (c : Cmd) (g : Nat) (L0 : List (Nat × Res)) (hf : Foreign g L0)
    (hend : endCalled c = true)
    (hg : v.teardown = true ∨ ((command v c).startFailed = true → (command v c).procs = [])) :
    ∃ extra, runRes L0 (atGen g (command v c).all) = extra ++ L0 ∧
      ∀ x ∈ extra, c.endAborts = true ∧ x.2.what = .child := by
  refine ⟨_, runRes_atGen hf, ?_⟩
  intro x hx
  obtain ⟨r, hr, rfl⟩ := List.mem_map.1 hx
  exact command_residue v c hend hg r hr

/-- C09 (ledger), HEADLINE — the code as it is since /repo 84fd7b3 (`teardown` in): the ledger after = the ledger before, on every
exit path that ends the pipeline -/
theorem C09_balanced (v : Variant) (hv : v.teardown = true) (c : Cmd) (g : Nat) (L0 : List (Nat × Res)) (hf : Foreign g L0)
    (hend : endCalled c = true) (hab : c.endAborts = false) :
    runRes L0 (atGen g (command v c).all) = L0 := by
  rw [runRes_atGen hf, command_balanced v c hend hab (Or.inl hv)]; rfl

/-- C09 (ledger), PINNED SNAPSHOT (the code before /repo 84fd7b3, `Variant.asIs`): the same, with the exact guard the proof forced — no stage other than the first fails
to start (`C09_cex_late_start_failure` shows the guard cannot be dropped) -/
theorem C09_balanced_partial (c : Cmd) (g : Nat) (L0 : List (Nat × Res)) (hf : Foreign g L0)
    (hend : endCalled c = true) (hab : c.endAborts = false)
    (hg : (command .asIs c).startFailed = true → (command .asIs c).procs = []) :
    runRes L0 (atGen g (command .asIs c).all) = L0 := by
  rw [runRes_atGen hf, command_balanced .asIs c hend hab (Or.inr hg)]; rfl

/-- ... and the guard is EXACT (pinned snapshot): as that code was, a command that ends its pipeline (and whose `_end` is not left early) gives
everything back if AND ONLY IF no stage other than the first fails to start; when one does, the read end of the pipe of the
stage just before it is still open (`late_failure_leaks`) -/
theorem C09_leak_exact (c : Cmd) (g : Nat) (L0 : List (Nat × Res)) (hf : Foreign g L0)
    (hend : endCalled c = true) (hab : c.endAborts = false) :
    runRes L0 (atGen g (command .asIs c).all) = L0 ↔
      ((command .asIs c).startFailed = true → (command .asIs c).procs = []) := by
  rw [runRes_atGen hf, List.append_left_eq_self, List.map_eq_nil_iff]
  exact command_balanced_iff .asIs rfl c hend hab

/-- a two-stage pipeline with a redirect on each side: non-vacuity of the guards -/
def exOk : Cmd :=
  ⟨[⟨.thr, [.file .inp true, .errToPipe], true, true⟩, ⟨.ext, [.file .err true], true, true⟩], .object, false, true, true, false, false⟩

example : endCalled exOk = true ∧ exOk.endAborts = false ∧ (command .asIs exOk).startFailed = false ∧
    (command .asIs exOk).procs.length = 2 := by decide

-- where the ledger does not balance: `&` pipelines and an `_end` left early (still so), a late start failure and a failed
-- build (pinned snapshot; repaired by /repo 84fd7b3 and 7dff01d — the second halves of the witnesses show the repaired variant)

/-- `echo hi | nosuchcmd`: the second stage fails to start; the first one's pipe (both ends) and its child are never given back -/
def cexLate : Cmd := ⟨[⟨.ext, [], true, true⟩, ⟨.ext, [], true, false⟩], .hidden, false, true, true, false, false⟩

theorem C09_cex_late_start_failure :
    endCalled cexLate = true ∧ cexLate.endAborts = false ∧
    runRes [] (atGen 1 (command .asIs cexLate).all) = [(1, ⟨0, .child⟩), (1, ⟨0, .pipeW⟩), (1, ⟨0, .pipeR⟩)] ∧
    runRes [] (atGen 1 (command ⟨true, false, false⟩ cexLate).all) = [] := by decide

/-- `a | b &`: nobody ends a background pipeline: the shell keeps both ends of the pipe between the stages -/
def cexBg : Cmd := ⟨[⟨.ext, [], true, true⟩, ⟨.ext, [], true, true⟩], .hidden, true, true, true, false, false⟩

theorem C09_cex_background :
    endCalled cexBg = false ∧
    runRes [] (atGen 1 (command .repaired cexBg).all) =
      [(1, ⟨1, .child⟩), (1, ⟨0, .child⟩), (1, ⟨0, .pipeW⟩), (1, ⟨0, .pipeR⟩)] := by decide

/-- the body of `_end` is left early (undecodable output, Ctrl-C) with a plain `Popen` last stage: its child is not waited for -/
def cexAbort : Cmd := ⟨[⟨.ext, [], true, true⟩], .hidden, false, true, true, false, true⟩

theorem C09_cex_abort :
    endCalled cexAbort = true ∧ runRes [] (atGen 1 (command .repaired cexAbort).all) = [(1, ⟨0, .child⟩)] := by decide

/-- `cmd > ok.txt < missing.txt`: the spec whose build raised is referenced only by the exception: its `ok.txt` stays open
until the exception is dropped (with the `closeOwn` repair it is closed at once) -/
def cexHeld : Cmd := ⟨[⟨.ext, [.file .out true, .file .inp false], true, true⟩], .hidden, false, true, true, false, false⟩

theorem C09_cex_held :
    runRes [] (atGen 1 (command .asIs cexHeld).main) = [(1, ⟨0, .file 0⟩)] ∧
    runRes [] (atGen 1 (command .asIs cexHeld).all) = [] ∧
    runRes [] (atGen 1 (command ⟨false, false, true⟩ cexHeld).main) = [] := by decide

/-- `PipeChannel.close*`, `safe_close`, `safe_fdclose`: closing again changes nothing -/
theorem C09_close_idem {ρ κ : Type} [DecidableEq ρ] (L : List ρ) (r : ρ) :
    stepRes (κ := κ) (stepRes (κ := κ) L (.cls r)) (.cls r) = stepRes (κ := κ) L (.cls r) := by
  simp [stepRes, List.filter_filter]

/-- closes commute -/
theorem C09_close_comm {ρ κ : Type} [DecidableEq ρ] (L : List ρ) (r r' : ρ) :
    stepRes (κ := κ) (stepRes (κ := κ) L (.cls r)) (.cls r') = stepRes (κ := κ) (stepRes (κ := κ) L (.cls r')) (.cls r) := by
  simp only [stepRes, List.filter_filter]
  apply List.filter_congr
  intro x _
  exact Bool.and_comm _ _

example : stepRes (κ := Nat) (stepRes (κ := Nat) [1, 2, 1, 3] (.cls 1)) (.cls 1) = [2, 3] := by decide

/-- the real code closes many things more than once, at moments that depend on thread timing (`_prev_procs_done`, the proxy
threads closing their writers, `PrevProcCloser`, `__del__`): whatever is closed in addition, wherever, a balanced command
stays balanced -/
theorem C09_extra_closes (v : Variant) (c : Cmd) (g : Nat) (L0 : List (Nat × Res)) (hf : Foreign g L0)
    (hend : endCalled c = true) (hab : c.endAborts = false)
    (hg : v.teardown = true ∨ ((command v c).startFailed = true → (command v c).procs = []))
    (a b : List CEv) (hsplit : (command v c).all = a ++ b) (xs : List Res) :
    runRes L0 (atGen g (a ++ xs.map .cls ++ b)) = L0 := by
  have h := runRes_extra_closes [] a b xs
  rw [← hsplit, command_balanced v c hend hab hg] at h
  rw [runRes_atGen hf, List.subset_nil.1 h]; rfl

/-- while the exception raised by `cmds_to_specs` is still referenced (as `sys.last_exc` does at a prompt) the only things the
failed command can still hold are redirect files of ONE stage — the one whose build raised — or the ONE pipe that had not
been attached yet: bounded, never cumulative; they go when the exception goes (`C09_ledger` has no residue for a command
that raised) -/
theorem C09_held_bounded (v : Variant) (c : Cmd) (hw : (command v c).why ≠ .ok) :
    ∃ k, ∀ x ∈ runRes [] (command v c).main, HeldShape k x := by
  rw [command_why] at hw
  obtain ⟨hnil, k, hk⟩ := (cmdsToSpecs_sound v c).fail hw
  refine ⟨k, fun x hx => hk x (Decidable.byContradiction fun hnc => ?_)⟩
  -- open when `cmds_to_specs` has raised and not closed when the exception goes: still open then
  rw [command_fail hw] at hx
  simpa [hnil] using mem_runRes_append.2 (Or.inr ⟨hx, hnc⟩)

example : (command .asIs cexHeld).why = .build ∧ HeldShape 0 ⟨0, .file 0⟩ := by
  refine ⟨by decide, rfl, Or.inl ⟨0, rfl⟩⟩

/-- no proc object of generation g remembers an old handler -/
def FreshGen (g : Nat) (S : SigSt (Nat × Nat)) : Prop := ∀ k, FreshKey S (g, k)

/-- C09 (handlers), HEADLINE — the code as it is since /repo 59f5309 (`lifo` in): for EVERY pipeline, whichever stage fails to start, and whether or not the body
of `_end` is left early, once the pipeline has been ended the signal table is what it was and no proc object of the command
remembers an old handler: saved = restored on every path -/
theorem C09_handlers_restored (v : Variant) (hv : v.lifo = true) (c : Cmd) (hend : endCalled c = true)
    (g : Nat) (S : SigSt (Nat × Nat)) (hS : FreshGen g S) :
    runSig S (atGen g (command v c).all) = S :=
  command_sig (fun r => (g, r)) (fun k => (g, k)) (pair_injective g) v c hend (fun h => by rw [hv] at h; cases h) S hS

/-- C09 (handlers), PINNED SNAPSHOT (the code before /repo 59f5309), with the guard the proof forced: no started stage other than the last one swaps a
handler (a callable alias in front of the last stage does: `C09_cex_sigint`), and the body of `_end` is not left early
while a handler is swapped (`C09_cex_abort_handlers`) -/
theorem C09_handlers_restored_partial (c : Cmd) (hend : endCalled c = true)
    (hq : ∀ s ∈ (if (command .asIs c).startFailed then (command .asIs c).procs else (command .asIs c).procs.dropLast),
      s.hs c.onMain = [])
    (hab : c.endAborts = true → ∀ s ∈ (command .asIs c).procs, s.hs c.onMain = [])
    (g : Nat) (S : SigSt (Nat × Nat)) (hS : FreshGen g S) :
    runSig S (atGen g (command .asIs c).all) = S :=
  command_sig (fun r => (g, r)) (fun k => (g, k)) (pair_injective g) .asIs c hend (fun _ => ⟨hq, hab⟩) S hS

def S0 : SigSt (Nat × Nat) := ⟨⟨.prior 0, .prior 1, .prior 2, .prior 3⟩, []⟩

/-- `$(echo hi)`: a PopenThread swaps all four handlers and gives them back: the guard of the partial theorem is not vacuous -/
def exPopenThread : Cmd := ⟨[⟨.ext, [], true, true⟩], .stdout, false, true, true, false, false⟩
example : (command .asIs exPopenThread).procs.map (·.hs true) = [[.int, .tstp, .quit, .winch]] ∧
    (runSig S0 (atGen 1 (command .asIs exPopenThread).all)).cur = S0.cur := by decide

/-- `alias | cmd`: the callable alias in front swapped SIGINT and is never asked to give it back -/
def cexSigint : Cmd := ⟨[⟨.thr, [], true, true⟩, ⟨.ext, [], true, true⟩], .hidden, false, true, true, false, false⟩

theorem C09_cex_sigint :
    (runSig S0 (atGen 1 (command .asIs cexSigint).all)).cur.int = .owner (1, 0) ∧
    (runSig S0 (atGen 1 (command ⟨false, true, false⟩ cexSigint).all)).cur = S0.cur := by decide

/-- a callable alias alone, the body of `_end` left early: the last proc is not waited for, so not asked either -/
def cexAbortH : Cmd := ⟨[⟨.thr, [], true, true⟩], .hidden, false, true, true, false, true⟩

theorem C09_cex_abort_handlers :
    (runSig S0 (atGen 1 (command .asIs cexAbortH).all)).cur.int = .owner (1, 0) ∧
    (runSig S0 (atGen 1 (command ⟨false, true, false⟩ cexAbortH).all)).cur = S0.cur := by decide

/-- the cumulative clause, positive half: ANY number of repetitions of a command that balances leaves the ledger unchanged -/
theorem C09_repeat (v : Variant) (c : Cmd) (hend : endCalled c = true) (hab : c.endAborts = false)
    (hg : v.teardown = true ∨ ((command v c).startFailed = true → (command v c).procs = [])) :
    ∀ (n g : Nat) (L0 : List (Nat × Res)), (∀ r ∈ L0, r.1 < g) → runRes L0 (repeatCmd v c g n) = L0 := by
  intro n g L0 hL
  -- `<` where one command asks `Foreign g L0`: the repetitions run as generations `g`, `g + 1`, …, none of whose names the
  -- ledger may hold, and the induction of `repeat_residue` hands the ledger it has reached on to generation `g + 1`
  rw [repeat_residue v c n g L0 hL, command_balanced v c hend hab hg]
  simp

/-- ... negative half: every repetition of a command adds its residue again — no later repetition gives anything back (the
only thing that does, in the real session, is the garbage collector once nothing references the old pipeline any more) -/
theorem C09_repeat_grows (v : Variant) (c : Cmd) :
    ∀ (n g : Nat) (L0 : List (Nat × Res)), (∀ r ∈ L0, r.1 < g) →
      (runRes L0 (repeatCmd v c g n)).length = L0.length + n * (runRes [] (command v c).all).length := by
  intro n g L0 hL
  -- `<` for the reason given in `C09_repeat`
  rw [repeat_residue v c n g L0 hL, List.length_append, List.length_flatMap]
  simp [List.map_const', Nat.add_comm]

/-- ... and for the handlers, with the `lifo` repair: any number of repetitions leaves the signal state as it was -/
theorem C09_repeat_handlers (v : Variant) (hv : v.lifo = true) (c : Cmd) (hend : endCalled c = true) :
    ∀ (n g : Nat) (S : SigSt (Nat × Nat)), (∀ g', g ≤ g' → FreshGen g' S) → runSig S (repeatCmd v c g n) = S := by
  intro n
  induction n with
  | zero => intro g S _; rfl
  | succ n ih =>
    intro g S hS
    simp only [repeatCmd]
    rw [runSig_append, C09_handlers_restored v hv c hend g S (hS g (Nat.le_refl g))]
    exact ih (g + 1) S (fun g' hg' => hS g' (Nat.le_of_succ_le hg'))

/-- pinned snapshot: as the code was before 59f5309, every `alias | cmd` left one more proc object in the chain behind SIGINT: after three of them the
chain is three deep (the real session answers a Ctrl-C by walking that chain recursively: RecursionError after some hundreds) -/
theorem C09_cex_sigint_chain :
    (runSig S0 (repeatCmd .asIs cexSigint 1 3)).saved.length = 3 ∧
    (runSig S0 (repeatCmd .asIs cexSigint 1 3)).cur.int = .owner (3, 0) ∧
    (runRes [] (repeatCmd .asIs cexLate 1 3)).length = 9 := by decide
