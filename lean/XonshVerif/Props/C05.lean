/-
C05 — Chains, exit codes and fail-fast follow the documented truth table.
`Chain.Spec` is the truth table; `Chain.Impl` is what the code does (tied to xonsh by
xv/props/c05.py).  The refinement theorem is about `Impl` with the repaired order of the two tests
in CommandPipeline._raise_subproc_error (`cf := true`, fix commit in known_findings.json).
-/
import XonshVerif.Model.Chain
open Chain

/-- a chain all of whose operands are bare / `![]` / `!()` commands: their VALUE is the pipeline
itself, truthy iff its exit code is 0 -/
def plainCh : Ch → Bool
  | .cmd c => c.form == .hidden || c.form == .object
  | .and a b => plainCh a && plainCh b
  | .or a b => plainCh a && plainCh b

/-- the last operand of a chain: the only one whose value nobody inside the statement asks about -/
def lastLeaf : Ch → Cmd
  | .cmd c => c
  | .and _ b => lastLeaf b
  | .or _ b => lastLeaf b

/-- a `!()` in that position ends lazily, after the statement; the statement is *quiet* when that end
would not raise (no `@error_raise`, no failing command under `$XONSH_SUBPROC_CMD_RAISE_ERROR`) -/
def quiet (fl : Flags) (c : Cmd) : Bool := !(c.form == .object && Spec.raisesAt fl c.rc c.dec)

/-- a statement of the fragment: a standalone command in ANY capture form, or a plain chain; quiet -/
def plainStmt (fl : Flags) (ch : Ch) : Bool :=
  (match ch with
   | .cmd _ => true
   | ch => plainCh ch) && quiet fl (lastLeaf ch)

/-- every operand whose truth value is asked for is a pipeline-valued command.  `last`: the chain stands at the end of a
statement, where nobody asks for the value of its last operand -/
def demandedPlain (last : Bool) : Ch → Bool
  | .cmd c => last || plainCh (.cmd c)
  | .and a b | .or a b => plainCh a && demandedPlain last b

theorem demandedPlain_of_plain {l : Bool} {ch : Ch} (h : plainCh ch = true) : demandedPlain l ch = true := by
  induction ch with
  | cmd c => simp [demandedPlain, h]
  | and a b _ ihb | or a b _ ihb =>
    simp only [plainCh, demandedPlain, Bool.and_eq_true] at h ⊢
    exact ⟨h.1, ihb h.2⟩

theorem plainStmt_demanded {fl : Flags} {ch : Ch} (h : plainStmt fl ch = true) :
    demandedPlain true ch = true ∧ quiet fl (lastLeaf ch) = true := by
  simp only [plainStmt, Bool.and_eq_true] at h
  refine ⟨?_, h.2⟩
  cases ch with
  | cmd c => rfl
  | and a b | or a b => exact demandedPlain_of_plain h.1

theorem pipeRaise_eq (fl : Flags) (m : Bool) (rc : Nat) (d : Dec) :
    Impl.pipeRaise true fl m rc d = Spec.raisesAt fl rc d := by
  unfold Impl.pipeRaise Spec.raisesAt bne
  generalize (rc == 0) = z
  cases z <;> cases d <;> cases fl.cmdRaise <;> rfl

/-- what both helpers of the implementation and the statement clause of the truth table compute from the facts of the last
completed pipeline -/
def finalRaise (fl : Flags) : Option (Nat × Nat × Form × Dec) → Option Raised
  | none => none
  | some (id, rc, f, d) => if Spec.raisesFinal fl rc f d then some ⟨rc, id⟩ else none

/-- `_check_subproc_helper_raise` and `subproc_check_boolop` make the same four tests, in different orders -/
theorem raise_tests (e z o i : Bool) (r : Raised) :
    (if !e then none else if o then none else if i then none else if z then none else some r) =
      (if e && !z && !o && !i then some r else none) ∧
    (if !e then none else if z then none else if o then none else if i then none else some r) =
      (if e && !z && !o && !i then some r else none) := by
  cases e <;> cases z <;> cases o <;> cases i <;> exact ⟨rfl, rfl⟩

theorem helperRaise_eq (fl : Flags) (last : Option (Nat × Nat × Form × Dec)) :
    Impl.helperRaise fl false last = finalRaise fl last := by
  rcases last with _ | ⟨id, rc, f, d⟩
  · unfold Impl.helperRaise; cases fl.raiseErr <;> rfl
  · exact (raise_tests fl.raiseErr (rc == 0) (f == .object) (d == .ignore) ⟨rc, id⟩).1

theorem checkBoolop_eq (fl : Flags) (v : Impl.Val) (s : St) :
    Impl.checkBoolop fl v s = finalRaise fl (match v with | .pipe c | .lazy c _ => some (facts c) | _ => s.last) := by
  obtain ⟨log, last⟩ := s
  cases v with
  | pipe c | lazy c _ => exact (raise_tests _ (c.rc == 0) (c.form == .object) (c.dec == .ignore) ⟨c.rc, c.id⟩).2
  | none | str _ =>
    rcases last with _ | ⟨id, rc, f, d⟩
    · unfold Impl.checkBoolop; cases fl.raiseErr <;> rfl
    · exact (raise_tests _ (rc == 0) (f == .object) (d == .ignore) ⟨rc, id⟩).2

theorem spec_stmt_eq (fl : Flags) (ch : Ch) (log : List Nat) :
    Spec.stmt fl ch log =
      match Spec.eval fl ch log with
      | .error (r, l) => (l, some r)
      | .ok (l, c) => (l, finalRaise fl (some (facts c))) := by
  rw [Spec.stmt]
  rcases Spec.eval fl ch log with ⟨r, l⟩ | ⟨l, c⟩
  · rfl
  · exact (apply_ite (Prod.mk l) ..).symm

theorem inner_ref (fl : Flags) (is : List Inner) (s : St) :
    Spec.runInner fl is s.log =
      match Impl.runInner true fl is s with
      | .error (r, s') => .error (r, s'.log)
      | .ok s' => .ok s'.log := by
  induction is generalizing s with
  | nil => rfl
  | cons i is ih =>
    simp only [Impl.runInner, Spec.runInner, pipeRaise_eq, helperRaise_eq, finalRaise, innerFacts]
    cases Spec.raisesAt fl i.rc i.dec
    · cases Spec.raisesFinal fl i.rc Form.stdout i.dec
      · exact ih ⟨s.log ++ [i.id], some (innerFacts i)⟩
      · rfl
    · rfl

/-- how an outcome of the implementation shows an outcome of the truth table, for a chain whose last operand is `c₀`.  `lazy`:
only `c₀` can be a `!()` still pending.  The Boolean index says that the chain stands in LAST position, where nobody asks for
its truth value; then (`valued`, `early`) the outcome may be `c₀`'s own: a `$[]` / `$()` value (the end of the statement looks at
`XSH.lastcmd`, which is `c₀`), or the unmarked helper has raised already what the truth table raises after the statement -/
inductive Shows (fl : Flags) (c₀ : Cmd) :
    Bool → Except (Raised × St) (Impl.Val × St) → Except (Raised × List Nat) (List Nat × Cmd) → Prop
  | error (l r s) : Shows fl c₀ l (.error (r, s)) (.error (r, s.log))
  | pipe (l c s) : Shows fl c₀ l (.ok (.pipe c, s)) (.ok (s.log, c))
  | lazy (l m s) : c₀.form = .object → Shows fl c₀ l (.ok (.lazy c₀ m, s))
      (if Spec.raisesAt fl c₀.rc c₀.dec then .error (⟨c₀.rc, c₀.id⟩, s.log) else .ok (s.log, c₀))
  | valued (v s) : Impl.checkBoolop fl v s = finalRaise fl (some (facts c₀)) → Shows fl c₀ true (.ok (v, s)) (.ok (s.log, c₀))
  | early (s) : Spec.raisesFinal fl c₀.rc c₀.form c₀.dec = true →
      Shows fl c₀ true (.error (⟨c₀.rc, c₀.id⟩, s)) (.ok (s.log, c₀))

theorem cmd_ref (fl : Flags) (m : Bool) (c : Cmd) (s : St) (l : Bool)
    (hp : demandedPlain l (.cmd c) = true) :
    Shows fl c l (Impl.runCmd true fl m c s) ((Spec.runCmd fl c s.log).map (·, c)) := by
  rw [Impl.runCmd, Spec.runCmd, inner_ref]
  rcases Impl.runInner true fl c.inject s with ⟨r, s'⟩ | s'
  · exact .error ..
  · simp only [pipeRaise_eq]
    cases hf : c.form
    case object =>
      simp only [beq_self_eq_true, if_true]
      rw [apply_ite (Except.map _)]
      exact .lazy l m _ hf
    case hidden =>
      cases Spec.raisesAt fl c.rc c.dec
      · exact .pipe ..
      · exact .error ..
    all_goals
      -- `$[]`, `$()`: only as the last operand
      obtain rfl : l = true := by simpa [demandedPlain, plainCh, hf] using hp
      cases Spec.raisesAt fl c.rc c.dec
      · cases m
        · -- unmarked: the helper makes the chain-level test itself
          simp only [helperRaise_eq, finalRaise, facts]
          cases hR : Spec.raisesFinal fl c.rc c.form c.dec
          · exact .valued _ _ (checkBoolop_eq ..)
          · exact .early _ hR
        · exact .valued _ _ (checkBoolop_eq ..)
      · exact .error ..

/-- a left operand's truth value is asked for, so a pending `!()` ends there.  The two sides are written as the and/or clauses
of `Impl.eval` and `Spec.eval` are, so that `eval_ref` can apply the lemma to the unfolded clauses as they stand: it does not
give `K` and `K'` (what a clause does with the left operand's value), unification reads them off the clauses.  With
`(generalizing := false)` the matches are over `i` and `o` alone, as the clauses' are; otherwise `h` would be taken into them. -/
theorem Shows.left {fl : Flags} {c₀ c₁ : Cmd} {l : Bool} {i o} (h : Shows fl c₀ false i o)
    {K : Impl.Val → St → Except (Raised × St) (Impl.Val × St)} {K' : List Nat → Cmd → Except (Raised × List Nat) (List Nat × Cmd)}
    (hK : ∀ c s, Shows fl c₁ l (K (.pipe c) s) (K' s.log c)) :
    Shows fl c₁ l
      (match (generalizing := false) i with
       | .error e => .error e
       | .ok (v, s) =>
         match Impl.demand true fl v s with
         | .error e => .error e
         | .ok (v, s) => K v s)
      (match (generalizing := false) o with
       | .error e => .error e
       | .ok (lg, c) => K' lg c) := by
  cases h with
  | error => exact .error ..
  | pipe _ c s => exact hK c s
  | lazy _ m s =>
    simp only [Impl.demand, pipeRaise_eq]
    cases Spec.raisesAt fl c₀.rc c₀.dec
    · exact hK c₀ s
    · exact .error ..

theorem eval_ref (fl : Flags) (ch : Ch) (l : Bool) (hp : demandedPlain l ch = true) (s : St) :
    Shows fl (lastLeaf ch) l (Impl.eval true fl ch s) (Spec.eval fl ch s.log) := by
  induction ch generalizing s l with
  | cmd c => exact cmd_ref fl _ c s l hp
  | and a b iha ihb =>
    simp only [demandedPlain, Bool.and_eq_true] at hp
    rw [Impl.eval, Spec.eval]
    refine (iha false (demandedPlain_of_plain hp.1) s).left fun c s' => ?_
    cases hc : c.rc == 0 <;> simp only [Impl.truthy, hc]
    · exact .pipe ..
    · exact ihb l hp.2 s'
  | or a b iha ihb =>
    simp only [demandedPlain, Bool.and_eq_true] at hp
    rw [Impl.eval, Spec.eval]
    refine (iha false (demandedPlain_of_plain hp.1) s).left fun c s' => ?_
    cases hc : c.rc == 0 <;> simp only [Impl.truthy, hc]
    · exact ihb l hp.2 s'
    · exact .pipe ..

def obs (x : St × Option Raised) : List Nat × Option Raised := (x.1.log, x.2)

theorem Shows.stmt {fl : Flags} {c₀ : Cmd} {l : Bool} {i o} (h : Shows fl c₀ l i o) (hq : quiet fl c₀ = true) :
    obs (match (generalizing := false) i with
      | .error (r, s) => (s, some r)
      | .ok (v, s) => (s, Impl.checkBoolop fl v s)) =
    (match (generalizing := false) o with
     | .error (r, lg) => (lg, some r)
     | .ok (lg, c) => (lg, finalRaise fl (some (facts c)))) := by
  cases h with
  | error => rfl
  | pipe _ c s => simp only [obs, checkBoolop_eq]
  | lazy _ m s hf =>
    have : Spec.raisesAt fl c₀.rc c₀.dec = false := by simpa [quiet, hf] using hq
    simp only [obs, this, Bool.false_eq_true, if_false, checkBoolop_eq]
  | valued v s hv => simp only [obs, hv]
  | early s hR => simp only [obs, finalRaise, facts, hR, if_true]

/-- the `!()` that the standalone clause does not look at would not raise in `subproc_check_boolop` either -/
theorem stmt_cmd (cf : Bool) (fl : Flags) (c : Cmd) (s : St) :
    Impl.stmt cf fl (.cmd c) s =
      match Impl.runCmd cf fl false c s with
      | .error (r, s) => (s, some r)
      | .ok (v, s) => (s, Impl.checkBoolop fl v s) := by
  by_cases ho : c.form = .object
  · simp only [Impl.stmt, Impl.runCmd, ho, beq_self_eq_true, if_true]
    cases Impl.runInner cf fl c.inject s
    · rfl
    · have hR : Spec.raisesFinal fl c.rc .object c.dec = false := by simp [Spec.raisesFinal]      -- it asks for `f != .object`
      simp only [checkBoolop_eq, finalRaise, facts, ho, hR, Bool.false_eq_true, if_false]
  · simp only [Impl.stmt, beq_eq_false_iff_ne.mpr ho, Bool.false_eq_true, if_false]
    rfl

theorem stmt_ref (fl : Flags) (ch : Ch) (hp : demandedPlain true ch = true) (hq : quiet fl (lastLeaf ch) = true) (s : St) :
    obs (Impl.stmt true fl ch s) = Spec.stmt fl ch s.log := by
  rw [spec_stmt_eq]
  cases ch with
  | cmd c => rw [stmt_cmd]; exact (cmd_ref fl false c s true rfl).stmt hq
  | and a b => exact (eval_ref fl (.and a b) true hp s).stmt hq
  | or a b => exact (eval_ref fl (.or a b) true hp s).stmt hq

theorem prog_ref (fl : Flags) (p : List Ch) (hp : ∀ ch ∈ p, demandedPlain true ch = true ∧ quiet fl (lastLeaf ch) = true) (s : St) :
    obs (Impl.prog true fl false p s) = Spec.prog fl p s.log := by
  induction p generalizing s with
  | nil => rfl
  | cons c cs ih =>
    simp only [List.forall_mem_cons] at hp
    have h := stmt_ref fl c hp.1.1 hp.1.2 s
    rw [Impl.prog, Spec.prog, ← h]
    rcases Impl.stmt true fl c s with ⟨s1, _ | r⟩
    · exact ih hp.2 s1
    · rfl

/-- C05, PARTIAL (the full statement also quantifies over `$[]` / `$()` operands, where it is false:
`C05_cex_uncaptured`, `C05_cex_stdout`).  For EVERY program — any number of statements, any nesting
and length of and/or chains, any exit codes, decorators, pipelines, injected `@$()` commands, both
raise flags, marked and unmarked (Python-looking) operands — whose chain operands are bare / `![]`
/ `!()` commands, the commands the implementation runs, in order, and the CalledProcessError that
escapes are exactly those of the documented truth table. -/
theorem C05_refines_partial (fl : Flags) (p : List Ch) (hp : ∀ ch ∈ p, plainStmt fl ch = true) (s : St) :
    (Impl.prog true fl false p s).1.log = (Spec.prog fl p s.log).1 ∧
    (Impl.prog true fl false p s).2 = (Spec.prog fl p s.log).2 := by
  rw [← prog_ref fl p (fun ch h => plainStmt_demanded (hp ch h)) s]; exact ⟨rfl, rfl⟩

/-- from a fresh session -/
theorem C05_refines_from_start (fl : Flags) (p : List Ch) (hp : ∀ ch ∈ p, plainStmt fl ch = true) :
    ((Impl.prog true fl false p St.init).1.log, (Impl.prog true fl false p St.init).2) = Spec.prog fl p [] :=
  prog_ref fl p (fun ch h => plainStmt_demanded (hp ch h)) St.init

/-- once a statement raises, no later statement runs — for ALL programs (any forms), in the
implementation model itself -/
theorem C05_no_stmt_after_raise (cf : Bool) (fl : Flags) (col : Bool) (c : Ch) (cs : List Ch) (s : St) (r : Raised)
    (h : (Impl.stmt cf fl c s col).2 = some r) :
    Impl.prog cf fl col (c :: cs) s = Impl.stmt cf fl c s col := by
  rw [Impl.prog]
  generalize Impl.stmt cf fl c s col = x at h ⊢
  obtain ⟨s1, r1⟩ := x
  obtain rfl : r1 = some r := h
  rfl

/-- a raise never lets later text run (Spec side) -/
theorem C05_spec_no_stmt_after_raise (fl : Flags) (c : Ch) (cs : List Ch) (log : List Nat) (r : Raised)
    (h : (Spec.stmt fl c log).2 = some r) : Spec.prog fl (c :: cs) log = Spec.stmt fl c log := by
  rw [Spec.prog]
  generalize Spec.stmt fl c log = x at h ⊢
  obtain ⟨l, r1⟩ := x
  obtain rfl : r1 = some r := h
  rfl

def mk (id rc : Nat) (f : Form) (prints : Bool := false) (d : Dec := .none) : Cmd :=
  ⟨id, rc, f, d, prints, false, [], []⟩

/-- `$[true] && b`: the exit code is 0, the value is None — b never runs -/
theorem C05_cex_uncaptured :
    let p := [Ch.and (.cmd (mk 1 0 .uncaptured)) (.cmd (mk 2 0 .hidden))]
    (Impl.prog true ⟨true, false⟩ false p St.init).1.log = [1] ∧ (Spec.prog ⟨true, false⟩ p []).1 = [1, 2] := by decide

/-- `$(failing-but-printing) && b` runs b; `$(silent-success) && b` does not -/
theorem C05_cex_stdout :
    let p1 := [Ch.and (.cmd (mk 1 1 .stdout true)) (.cmd (mk 2 0 .hidden))]
    let p2 := [Ch.and (.cmd (mk 1 0 .stdout false)) (.cmd (mk 2 0 .hidden))]
    (Impl.prog true ⟨true, false⟩ false p1 St.init).1.log = [1, 2] ∧ (Spec.prog ⟨true, false⟩ p1 []).1 = [1] ∧
    (Impl.prog true ⟨true, false⟩ false p2 St.init).1.log = [1] ∧ (Spec.prog ⟨true, false⟩ p2 []).1 = [1, 2] := by decide

/-- the pinned snapshot's order of tests (`cf := false`): with $XONSH_SUBPROC_CMD_RAISE_ERROR a
failing marked operand was deferred to the chain and the fallback ran; repaired (`cf := true`) -/
theorem C05_old_rule_cex_cmd_raise :
    let p := [Ch.or (.cmd (mk 1 1 .hidden)) (.cmd (mk 2 0 .hidden))]
    Impl.prog false ⟨true, true⟩ false p St.init = (⟨[1, 2], some (2, 0, .hidden, .none)⟩, none) ∧
    Spec.prog ⟨true, true⟩ p [] = ([1], some ⟨1, 1⟩) ∧
    (Impl.prog true ⟨true, true⟩ false p St.init).2 = some ⟨1, 1⟩ := by decide

/-- KNOWN FINDING `lazy-object-never-ends-in-statement`: `t b 1 || !(@error_raise t c 1)` — the docs say
`!(@error_raise …)` raises; as the last operand nobody asks for its result inside the statement -/
theorem C05_cex_lazy_object :
    let p := [Ch.or (.cmd (mk 1 1 .hidden)) (.cmd (mk 2 1 .object false .raise))]
    Impl.prog true ⟨true, false⟩ false p St.init = (⟨[1, 2], some (2, 1, .object, .raise)⟩, none) ∧
    Spec.prog ⟨true, false⟩ p [] = ([1, 2], some ⟨1, 2⟩) := by decide

/-- the pinned snapshot's sub-chain drop (repaired in /repo e204b18), as `collapse` describes it:
`(a && f0 -c) && d` ran c and d only -/
theorem C05_cex_subchain_drop :
    let py : Cmd := ⟨2, 0, .hidden, .none, false, true, [], []⟩
    let p := [Ch.and (.and (.cmd (mk 1 0 .hidden)) (.cmd py)) (.cmd (mk 3 0 .hidden))]
    (Impl.prog true ⟨true, false⟩ true p St.init).1.log = [2, 3] ∧ (Spec.prog ⟨true, false⟩ p []).1 = [1, 2, 3] := by decide

/-- non-vacuity: a plain program with nesting, a pipeline, an injected command, decorators and a
`!()` exercises every branch and the two sides agree on a non-trivial outcome -/
example :
    let a : Cmd := ⟨1, 1, .hidden, .none, false, false, [7], []⟩
    let b : Cmd := ⟨2, 0, .object, .none, true, false, [], [⟨8, 0, .none⟩]⟩
    let c : Cmd := ⟨3, 2, .hidden, .ignore, false, true, [], []⟩
    let d : Cmd := ⟨4, 3, .hidden, .none, false, false, [], []⟩
    let p := [Ch.and (.or (.cmd a) (.cmd b)) (.cmd c), .cmd (mk 5 0 .stdout true), .or (.cmd d) (.cmd (mk 6 0 .hidden)), .cmd d, .cmd (mk 9 0 .hidden)]
    (∀ ch ∈ p, plainStmt ⟨true, false⟩ ch = true) ∧
    Spec.prog ⟨true, false⟩ p [] = ([7, 1, 8, 2, 3, 5, 4, 6, 4], some ⟨3, 4⟩) := by decide
