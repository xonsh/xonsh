import XonshVerif.Lemmas.TrySkel
import XonshVerif.Lemmas.LogicalLine
import XonshVerif.Gen.TryParse
import XonshVerif.Lemmas.Wrap
/-
C03 — "A bare command line means exactly its explicit `![...]` form, everywhere. Detection always terminates."

PARTIAL.  The equivalence clause depends on the LALR parser's error locations and is searched differentially
(xv/props/c03.py), not proved.  Proved here:
  (1) termination of the recovery loop, for every input and every behaviour of the opaque parts, from the control
      skeleton regenerated from xonsh/execer.py (Gen/TryParse.lean) and the generic lemma of Lemmas/TrySkel.lean;
  (2) logical-line reconstruction (get_logical_line / replace_logical_line);
  (3) the wrap operation at the end of subproc_toks.
-/
open TrySkel

/-- For EVERY oracle `o` (parser verdicts, error locations, what subproc_toks / find_next_break return, which handler
matches — everything the skeleton abstracts) and every assignment `ci` of retry budgets not above `B`
(`len(input.splitlines()) * 2 + 10`), the whole context-free phase — the outer `_parse_ctx_free`, its two
`_try_parse` attempts, and the recursive `_parse_ctx_free(…, logical_input=True)` on logical lines — stops within the
budget (fuel `B+1` per loop is never exhausted), never enters a third recursion level, and calls `parser.parse` at most
`2·B·(1 + 2·B)` times.  Assumes only that each callee returns. -/
theorem C03_bounded_parses (o : Nat → Bool) (ci : Nat → Nat) (B : Nat) (hci : ∀ k, ci k ≤ B) :
    (parseOuter o ci Gen.TryParse.tryParseSkel Gen.TryParse.parserCall (B + 1)).1 ≠ .fuel ∧
    (parseOuter o ci Gen.TryParse.tryParseSkel Gen.TryParse.parserCall (B + 1)).1 ≠ .deeper ∧
    (parseOuter o ci Gen.TryParse.tryParseSkel Gen.TryParse.parserCall (B + 1)).2.1 ≤ 2 * B * (1 + 2 * B) := by
  have h := parseOuter_bound o ci _ _ B (B + 1) hci (Nat.lt_succ_self B) Gen.TryParse.shape_ok
  -- one parser call and one recursive call per round: a round costs `1 + Rb` when the recursive call costs `Rb`
  have round (Rb : Nat) : maxParses Gen.TryParse.parserCall Rb (bodyRest Gen.TryParse.tryParseSkel) = 1 + Rb := by
    rw [maxParses, Gen.TryParse.per_round.1, Gen.TryParse.per_round.2, Nat.one_mul]
  -- `h` bounds by `2 * (B * (1 + 2 * (B * (1 + 0))))`: the `0` is the `Rb` of the frame entered with `logical_input=True`
  rw [round, round, Nat.add_zero 1, Nat.mul_one, ← Nat.mul_assoc] at h
  exact ⟨h.noFuel, h.noDeeper, h.le⟩

/-- THE BUDGET IS ENOUGH FOR WELL-FORMED INPUT (the other side of the cap): the retry counter starts at `budget L`
(translated from the source, L = number of lines).  Every bare segment that is not valid Python costs one round of the loop and
the accepting parse one more, so an input of L lines with at most two such segments per line needs 2·L + 1 rounds — never more
than the budget.  Lowering the initial value (e.g. to `L + 10`) breaks this obligation. -/
theorem C03_budget_suffices (L : Nat) : 2 * L + 1 ≤ Gen.TryParse.budget L := Gen.TryParse.budget_ok L

/-- …and with that budget the bound of C03_bounded_parses is a function of the input's size alone -/
theorem C03_bounded_parses_of_lines (o : Nat → Bool) (ci : Nat → Nat) (L : Nat) (hci : ∀ k, ci k ≤ Gen.TryParse.budget L) :
    (parseOuter o ci Gen.TryParse.tryParseSkel Gen.TryParse.parserCall (Gen.TryParse.budget L + 1)).2.1
      ≤ 2 * Gen.TryParse.budget L * (1 + 2 * Gen.TryParse.budget L) :=
  (C03_bounded_parses o ci (Gen.TryParse.budget L) hci).2.2

example : Gen.TryParse.budget 10 ≥ 21 := by decide

/-- the outer function really is two attempts of `_try_parse` (what `ctxFree` models) -/
theorem C03_outer_shape :
    (Gen.TryParse.outerSkel == outerExpected && noRec Gen.TryParse.outerPre
      && maxCalls "_try_parse" Gen.TryParse.outerPre == 0) = true := Gen.TryParse.outer_ok

/-- non-vacuity: with a parser that never accepts and a budget of 12, the model makes 24 parser calls (two attempts of
12 rounds) and ends by raising — the bound is about real work, and the loop does end by the counter -/
example : parseOuter (fun _ => true) (fun _ => 12) Gen.TryParse.tryParseSkel Gen.TryParse.parserCall 13
    = (.raise, 24, (parseOuter (fun _ => true) (fun _ => 12) Gen.TryParse.tryParseSkel Gen.TryParse.parserCall 13).2.2) := by
  decide +kernel

def miniOk : Fn :=
  { ctr := "n", pre := .assign "n",
    body := .seq (.guardCtr "n") (.seq (.decCtr "n") (.tryExc (.call "p") (.ite false .cont .raise))), post := .ret }
/-- the decrement deleted -/
def miniNoDec : Fn := { miniOk with body := .seq (.guardCtr "n") (.tryExc (.call "p") (.ite false .cont .raise)) }
/-- the decrement moved below a `continue` -/
def miniDecAfterContinue : Fn :=
  { miniOk with body := .seq (.guardCtr "n") (.seq (.tryExc (.call "p") (.ite false .cont .raise)) (.decCtr "n")) }
/-- the counter assigned in the body -/
def miniAssign : Fn :=
  { miniOk with body := .seq (.guardCtr "n") (.seq (.decCtr "n") (.seq (.assign "n") (.call "p"))) }
/-- the recursion no longer guarded by `not logical_input` -/
def miniUnguarded : Fn :=
  { miniOk with body := .seq (.guardCtr "n") (.seq (.decCtr "n") (.ite false (.seq .recCall .cont) (.call "p"))) }

example : shapeOk miniOk "p" = true := by decide
example : shapeOk miniNoDec "p" = false := by decide
example : shapeOk miniDecAfterContinue "p" = false := by decide
example : shapeOk miniAssign "p" = false := by decide
example : shapeOk miniUnguarded "p" = false := by decide

/-- WHY the shape matters (counterexample to the bound without it): with the decrement below a `continue`, a parser
that always fails and a handler that always continues keep the loop running: fuel 1000 is exhausted with a budget of 3 -/
theorem C03_shape_needed_cex :
    (runFn { o := fun k => k % 3 != 2, ci := fun _ => 3, logical := false,
             recf := fun p k => (.normal, p, k), ctrName := "n", parseName := "p" }
       miniDecAfterContinue 1000 0 0).1 = .fuel := by
  apply runFn_fuel (s1 := ⟨3, 0, 1⟩) (hpre := rfl)
  -- every round starts at an oracle index ≡ 1 (mod 3): the loop test holds, the parser fails, the handler continues
  apply loop_diverges (I := fun s => s.orc % 3 = 1 ∧ s.ctr = 3) (s := ⟨3, 0, 1⟩) (fuel := 1000)
  · intro s ⟨ho, hc⟩
    have h1 : (s.orc + 1) % 3 = 2 := by omega
    have h2 : (s.orc + 1 + 1) % 3 = 0 := by omega
    refine ⟨by simp [ho], ⟨s.ctr, s.parses + 1, s.orc + 3⟩, ?_, by dsimp only; omega, hc⟩
    simp [exec, miniDecAfterContinue, miniOk, St.tick, hc, h1, h2]
  · exact ⟨rfl, rfl⟩

open LogicalLine in
/-- `get_logical_line(lines, idx)` for `idx < len(lines)`: the window lies inside the list and starts at or before idx -/
theorem C03_get_bounds (sc : Scan) (ls : List Line) (idx : Nat) (h : idx < ls.length) :
    (getLogical sc ls idx).2.2 ≤ idx ∧ 1 ≤ (getLogical sc ls idx).2.1 ∧
      (getLogical sc ls idx).2.2 + (getLogical sc ls idx).2.1 ≤ ls.length := by
  have hs := (backStart_spec sc ls idx).1
  have hf := fwd_spec sc ls (backStart sc ls idx) 0 (by omega) _ _ rfl
  exact ⟨hs, hf.1, hf.2.1⟩

open LogicalLine in
/-- When the two scans agree — the backward test on physical line k and the forward test on the accumulated text ending
with line k both say `link k` — the window is THE maximal run of linked lines containing idx: every line of the window
but the last is linked to its successor, the line before the window is not linked to it, the last line of the window
is not linked to what follows (or the list ends), and idx is inside. -/
theorem C03_get_window (sc : Scan) (ls : List Line) (idx : Nat) (link : Nat → Bool) (h : idx < ls.length)
    (hb : ∀ k, backTest sc ls k = link k)
    (hf : ∀ m, joins sc (accLine sc ls (backStart sc ls idx) m) = link (backStart sc ls idx + m)) :
    let start := (getLogical sc ls idx).2.2
    let n := (getLogical sc ls idx).2.1
    start ≤ idx ∧ idx < start + n ∧ (∀ k, start ≤ k → k + 1 < start + n → link k = true) ∧
      (start = 0 ∨ link (start - 1) = false) ∧ (start + n = ls.length ∨ link (start + n - 1) = false) := by
  obtain ⟨hs, hbk⟩ := backStart_spec sc ls idx
  obtain ⟨hn, -, hlinks, hend⟩ :=
    fwd_spec sc ls (backStart sc ls idx) 0 (by omega) _ (getLogical sc ls idx).2.1 rfl
  simp only [hb] at hbk
  simp only [hf] at hlinks hend
  simp only [show (getLogical sc ls idx).2.2 = backStart sc ls idx from rfl]
  generalize backStart sc ls idx = start at *
  generalize (getLogical sc ls idx).2.1 = n at *
  have hend : start + n = ls.length ∨ link (start + n - 1) = false := Nat.add_sub_assoc hn start ▸ hend
  refine ⟨hs, Nat.lt_of_not_le fun hle => ?_, fun k hk hk2 => ?_, hbk.2, hend⟩
  · rcases hend with e | e
    · omega
    · exact absurd (hbk.1 (start + n - 1) (by omega) (by omega)) (by simp [e])
  · exact Nat.add_sub_cancel' hk ▸ hlinks (k - start) (Nat.zero_le _) (by omega)

open LogicalLine in
/-- …and they need not agree: a scan that looks at quotes and comments can call physical line 1 continued on its own
(its `#` sits after an odd quote) while the accumulated text (quote closed) ends in a comment — the window returned for
idx = 2 is [0, 2) and does NOT contain idx.  (The real scanners do this on `)"f\`, ` "# c \`, `` — seen in the
correspondence stream; the execer's next round happens to repair it.) -/
theorem C03_get_window_cex :
    let sc : Scan := { cont := fun l => l.getLast? == some '\\' && (l.count '"' % 2 == 1 || !l.contains '#'), open3 := fun _ => false }
    let ls : List Line := ["x\"\\".toList, "\"#\\".toList, "c".toList]
    (getLogical sc ls 2).2.2 = 0 ∧ (getLogical sc ls 2).2.1 = 2 := by
  decide

open LogicalLine in
/-- `replace_logical_line(lines, logical, idx, n)` for a window inside the list and a logical line without a newline:
the list keeps its length, nothing outside the window changes, and the pieces written into the window, with the
continuation characters that were appended removed, concatenate to exactly `logical` — no character of the (wrapped)
logical line is lost or duplicated. -/
theorem C03_replace_content (ls : List Line) (logical : Line) (idx n : Nat) (hn : 2 ≤ n)
    (hnl : logical.contains '\n' = false) (hin : idx + n ≤ ls.length) :
    ∃ (ps : List (Line × Bool)) (last : Line),
      replaceLogical ls logical idx n = some (ls.take idx ++ ps.map renderPiece ++ [last] ++ ls.drop (idx + n)) ∧
      ps.length = n - 1 ∧ (ps.map Prod.fst).flatten ++ last = logical ∧
      (ls.take idx ++ ps.map renderPiece ++ [last] ++ ls.drop (idx + n)).length = ls.length := by
  have hsp := pieces_spec (((ls.drop idx).take (n - 1)).map List.length) logical
  have hlen := hsp.1
  rw [List.length_map, List.length_take, List.length_drop, Nat.min_eq_left (by omega)] at hlen
  refine ⟨_, _, ?_, hlen, hsp.2, ?_⟩
  · rw [replaceLogical, if_neg (by omega), if_neg (by omega), hnl, if_neg Bool.false_ne_true, if_pos hin]
  · simp only [List.length_append, List.length_map, List.length_take, List.length_drop, List.length_cons,
      List.length_nil, hlen]
    omega

open LogicalLine in
/-- the `n = 1` and the newline cases are plain splices -/
theorem C03_replace_single (ls : List Line) (logical : Line) (idx : Nat) (h : idx < ls.length) :
    replaceLogical ls logical idx 1 = some (ls.set idx logical) := by
  simp [replaceLogical, h]

open LogicalLine in
/-- replacing a window by what the continuation-join of that window gives is the IDENTITY when every continued line is
followed by text starting with a blank (the usual layout `cmd a \⏎  b`) -/
theorem C03_replace_get (ws : List Line) (last : Line) (h : SplitsBack ws last) :
    pieces (ws.map List.length) (glue ws last) = (ws.map (fun l => (l.dropLast, true)), last) ∧
      (ws.map (fun l => renderPiece (l.dropLast, true))) = ws := by
  induction ws with
  | nil => exact ⟨rfl, rfl⟩
  | cons l ws ih =>
    obtain ⟨hl, hhead, hrest⟩ := h
    obtain ⟨ys, rfl⟩ := List.getLast?_eq_some_iff.mp hl
    obtain ⟨g, hg⟩ := List.head?_eq_some_iff.mp hhead
    have ih := ih hrest
    rw [List.map_cons, List.map_cons, List.map_cons, ih.2, glue, List.dropLast_concat, hg, pieces, List.length_append,
      List.length_singleton, pyFind_blank]
    dsimp only
    rw [List.take_left, List.drop_left, ← hg, ih.1]
    exact ⟨rfl, rfl⟩

open LogicalLine in
/-- …and is NOT the identity otherwise: `a\⏎b c` comes back as `ab\⏎ c` (same logical text, different split) -/
theorem C03_replace_get_cex :
    replaceLogical ["a\\".toList, "b c".toList] (getLogical { cont := fun l => l.getLast? == some '\\', open3 := fun _ => false }
        ["a\\".toList, "b c".toList] 0).1 0 2
      = some ["ab\\".toList, " c".toList] := by
  decide

open Wrap in
/-- erasing the inserted `![` and `]` gives the line back; the wrapped part ends at or before the raw end offset and
inside the line -/
theorem C03_wrap_preserves (line : Line) (beg e0 : Nat) (h : beg ≤ endOf line e0) :
    erase (wrap line beg e0) beg (endOf line e0) = line ∧ endOf line e0 ≤ e0 ∧ endOf line e0 ≤ line.length ∧
      wrap line beg e0 = line.take beg ++ ['!', '['] ++ (line.drop beg).take (endOf line e0 - beg) ++ [']'] ++ line.drop (endOf line e0) := by
  have hle := endOf_le line e0
  have hw : wrap line beg e0 = line.take beg ++ ['!', '['] ++ (line.drop beg).take (endOf line e0 - beg) ++ [']']
      ++ line.drop (endOf line e0) := by rw [wrap, List.drop_take]
  refine ⟨?_, hle.1, hle.2, hw⟩
  generalize endOf line e0 = en at *
  have he := erase_wrapped (line.take beg) ((line.drop beg).take (en - beg)) (line.drop en)
  rw [List.length_take, List.length_take, List.length_drop, Nat.min_eq_left (by omega), Nat.min_eq_left (by omega),
    Nat.add_sub_cancel' h] at he
  have hd : line.drop en = (line.drop beg).drop (en - beg) := by rw [List.drop_drop, Nat.add_sub_cancel' h]
  rw [hw, he, List.append_assoc, hd, List.take_append_drop, List.take_append_drop]

open Wrap in
/-- no token is split: with `beg` the start of token i and the raw end the (blank-free) end of token j ≥ i of a
non-overlapping token list, the right-strip does not move the end, every earlier token lies left of the wrap, tokens
i…j lie inside it, every later token lies right of it -/
theorem C03_wrap_no_split (line : Line) (toks : List Tok) (hs : toks.Pairwise (fun a b => a.stop ≤ b.pos))
    (i j : Nat) (hij : i ≤ j) (hj : j < toks.length)
    (hne : 0 < (toks[j]).len) (hin : (toks[j]).stop ≤ line.length)
    (hnb : ∀ c, line[(toks[j]).stop - 1]? = some c → isSpace c = false) :
    endOf line (toks[j]).stop = (toks[j]).stop ∧
      ∀ k (hk : k < toks.length),
        (k < i → (toks[k]).stop ≤ (toks[i]'(by omega)).pos) ∧
        (i ≤ k → k ≤ j → (toks[i]'(by omega)).pos ≤ (toks[k]).pos ∧ (toks[k]).stop ≤ endOf line (toks[j]).stop) ∧
        (j < k → endOf line (toks[j]).stop ≤ (toks[k]).pos) := by
  have hp := List.pairwise_iff_getElem.mp hs
  have mono : ∀ a b (ha : a < toks.length) (hb : b < toks.length), a ≤ b →
      (toks[a]).pos ≤ (toks[b]).pos ∧ (toks[a]).stop ≤ (toks[b]).stop := by
    intro a b ha hb hab
    rcases Nat.eq_or_lt_of_le hab with rfl | hlt
    · exact ⟨Nat.le_refl _, Nat.le_refl _⟩
    · have := hp a b ha hb hlt; simp only [Tok.stop] at this ⊢; omega
  have he := endOf_eq line (toks[j]).stop (by simp only [Tok.stop]; omega) hin hnb
  rw [he]
  exact ⟨rfl, fun k hk => ⟨fun hki => hp k i hk (by omega) hki,
    fun hik hkj => ⟨(mono i k (by omega) hk hik).1, (mono k j hk hj hkj).2⟩, fun hjk => hp j k hj hk hjk⟩⟩

/-- non-vacuity of the wrap theorems: `  ls -l; x` with the tokens `ls`, `-l`, `;`, `x`, wrapping tokens 0…1 -/
example : Wrap.wrap "  ls -l; x".toList 2 7 = "  ![ls -l]; x".toList := by decide
example : Wrap.erase (Wrap.wrap "  ls -l ; x".toList 2 8) 2 (Wrap.endOf "  ls -l ; x".toList 8) = "  ls -l ; x".toList := by decide
/-- the hypothesis `beg ≤ end` is needed: a window that ends before its first token (raw end = beg, blanks before it)
inserts an empty `![]` and duplicates nothing only by luck — here erase does not give the line back -/
example : Wrap.wrap "a  b".toList 3 3 = "a  ![]  b".toList := by decide
