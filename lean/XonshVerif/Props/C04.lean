/-
C04 — Arguments reach the command exactly as written — no hidden re-splitting.

Theorems over `Model/PyStr.lean` (Python string literals), `Model/Expand.lean` (expandvars / expand_path)
and `Model/Args.lean` (argument-list assembly and hand-off), tied to /repo by `translator/c04.py`
(`Gen/ArgTables.lean`, regenerated every run) and by the correspondence harness `xv/props/c04.py`
(real `Execer.exec`, a recording callable alias and a real child process).
-/
import XonshVerif.Model.Args
import XonshVerif.Lemmas.PyStr
import XonshVerif.Lemmas.Expand
import XonshVerif.Lemmas.ListFacts
import XonshVerif.Gen.ArgTables
open PyStr Expand Args

/-- `expandvars` is modelled for exactly this regular expression -/
theorem C04_src_envvar_regex :
    Gen.ArgTables.envvarPattern = Expand.modelledPattern ∧ Gen.ArgTables.envvarFlags = 32 := ⟨rfl, rfl⟩

/-- `.strip()` of the macro text removes exactly the modelled characters -/
theorem C04_src_pyspace : Gen.ArgTables.pySpace = Args.pySpace := rfl

/-- the parser's atom rules: a string literal is `append`ed (raw: the node itself, non-raw: through
`expand_path`), `@(…)` is `extend`ed through `list_of_strs_or_callables`, `@!(…)` is `append`ed as it is,
a word is the outer product / glob (`extend`) or `expand_path` (`append`) -/
theorem C04_src_atom_actions :
    Gen.ArgTables.atomActions.lookup "p_subproc_atom_str" = some (["append"], ["__xonsh__.expand_path"]) ∧
    Gen.ArgTables.atomStr = ("hasattr(p[1], 'is_raw') and p[1].is_raw", "p0 = p[1]", ["__xonsh__.expand_path"]) ∧
    Gen.ArgTables.atomActions.lookup "p_subproc_atom_pyeval" = some (["extend"], ["__xonsh__.list_of_strs_or_callables"]) ∧
    Gen.ArgTables.atomActions.lookup "p_subproc_atom_pyeval_macro" = some (["append"], []) ∧
    Gen.ArgTables.atomActions.lookup "p_subproc_atom_arg" =
      some (["extend", "extend", "append"],
            ["__xonsh__.list_of_list_of_strs_outer_product", "__xonsh__.glob", "__xonsh__.expand_path"]) :=
  ⟨rfl, rfl, rfl, rfl, rfl⟩

/-- `_subproc_cliargs` understands these actions; only `append` keeps the current list literal open -/
theorem C04_src_cliarg_actions :
    Gen.ArgTables.cliargActions =
      [("append", ["binop", "currlist.elts.append", "empty_list"], false),
       ("extend", ["binop"], true),
       ("splitlines", ["binop", "call_split_lines"], true),
       ("ensure_list", ["binop", "ensure_list_from_str_or_list"], true)] := rfl

/-- the glob trigger, the `=` of the tilde rule and the NUL replacement are the modelled ones -/
theorem C04_src_constants :
    Gen.ArgTables.outerProductTriggers = ["*"] ∧ Gen.ArgTables.hasglobstarTriggers = ["*"] ∧
    Args.globTrigger = 42 ∧ Gen.ArgTables.expandPathPartition = ["="] ∧
    Gen.ArgTables.nullReplace = [([0], [92, 48])] ∧ (∀ s, Args.fixNull s = Args.replaceChar 0 [92, 48] s) :=
  ⟨rfl, rfl, rfl, rfl, rfl, fun _ => rfl⟩

/-- ROUND TRIP: for EVERY string `s` (any code points up to U+10FFFF — NUL, lone surrogates, quotes,
backslash runs, newlines included), every quote style, plain and f-string text, and every choice of
which characters to hex-escape, the literal the harness writes evaluates to exactly `s`. -/
theorem C04_literal_roundtrip (f rawNl : Bool) (q : Quote) (choices : List Bool) (s : Str)
    (hv : validStr s) (hnl : rawNl = true → q.triple = true) :
    evalBody false f q (render f rawNl choices s) = some s :=
  (render_spec f rawNl q hnl s choices hv).evalBody

example : evalBody false false .d1 (render false false [] [97, 34, 92, 10, 0, 56575, 119070]) =
    some [97, 34, 92, 10, 0, 56575, 119070] := by decide
example : render false false [false, true] [97, 98, 92] = [97, 92, 120, 54, 50, 92, 92] := by decide
example : evalBody false true .s3 (render true true [] [123, 10, 125]) = some [123, 10, 125] := by decide

/-- RAW literals: whatever a raw (non-f) literal evaluates to is its body, character for character
(after the reader's newline normalisation, which is the identity on text without CR) -/
theorem C04_raw_verbatim (q : Quote) (body v : Str) (h : evalBody true false q body = some v) :
    v = normNl body := by
  have := raw_run (mkCfg true false q) rfl rfl (normNl body) (.n 0) v trivial h
  simpa [owed] using this

theorem C04_raw_verbatim_noCR (q : Quote) (body v : Str) (hcr : ¬ 13 ∈ body)
    (h : evalBody true false q body = some v) : v = body := by
  rw [C04_raw_verbatim q body v h]
  exact normNlGo_id body hcr

example : evalBody true false .s1 [97, 92, 110, 92, 39, 36] = some [97, 92, 110, 92, 39, 36] := by decide
example : evalBody true false .s1 [97, 92] = none := by decide       -- r'a\' is not a literal

/-- a value with no `$` and no tilde-prefix is not touched by `expand_path`, whatever the environment,
the home directories and the two switches are -/
theorem C04_expand_id (e : Env) (s : Str) (hd : ¬ 36 ∈ s) (ht : tildePrefix e s = false) :
    expandPath e s = s := by
  have hv : (if e.expandVars = true then expandvars e s else s) = s := by
    split
    · exact expandGo_noDollar e s hd
    · rfl
  rw [expandPath]
  simp only [hv]
  rw [tildePrefix] at ht
  split
  · split at ht
    · next hc =>
      simp only [Bool.or_eq_false_iff, List.any_eq_false] at ht
      rw [if_pos hc, expanduser_id e _ ht.1,
        List.map_id_of_forall (expanduser e) _ fun p hp => expanduser_id e p (by simpa using ht.2 p hp),
        joinWith_splitOn, List.takeWhile_cons_drop 61 s hc]
    · next hc => rw [if_neg hc]; exact expanduser_id e s ht
  · rfl

/-- variables that are not set are left exactly as written -/
theorem C04_expandvars_unknown (e : Env) (hu : ∀ n, e.lookup n = none) (s : Str) : expandvars e s = s :=
  expandGo_unknown e hu s 0

theorem weaveStep_flat (w : Weave) (a : Act) : (weaveStep w a).chain.flatten = w.chain.flatten ++ a.args := by
  cases a with
  | extend xs => simp [weaveStep, Act.args]
  | append x =>
    -- an open list literal takes `x` at its end; with none open (or no summand at all) `[x]` is a new summand
    rcases List.eq_nil_or_concat w.chain with e | ⟨before, last, e⟩ <;> by_cases ho : w.open_ = true <;>
      simp [weaveStep, ho, e, Act.args]

theorem weave_from (acts : List Act) (w : Weave) :
    (acts.foldl weaveStep w).chain.flatten = w.chain.flatten ++ acts.flatMap Act.args := by
  induction acts generalizing w with
  | nil => simp
  | cons a as ih => rw [List.foldl_cons, ih, weaveStep_flat, List.flatMap_cons, List.append_assoc]

/-- `_subproc_cliargs` is plain concatenation: the `currlist` bookkeeping (keep appending to the open list
literal, start a new one after an `extend`) never loses, duplicates or reorders an element -/
theorem C04_weave_flat (acts : List Act) : weave acts = acts.flatMap Act.args := by
  rw [weave, weave_from]; rfl

theorem cliargs_eq (c : Cfg) (atoms : List Atom) (bang : Option (Bool × Str)) :
    cliargs c atoms bang = atoms.flatMap (fun a => (atomAct c a).args) ++ bangArg c bang := by
  unfold cliargs
  rw [C04_weave_flat, List.flatMap_map]

theorem cliargs_in_place (c : Cfg) (pre post : List Atom) (a : Atom) (bang : Option (Bool × Str)) :
    cliargs c (pre ++ [a] ++ post) bang = cliargs c pre none ++ (atomAct c a).args ++ cliargs c post bang := by
  simp only [cliargs_eq, List.flatMap_append, List.flatMap_cons, List.flatMap_nil, bangArg, List.append_nil,
    List.append_assoc]

theorem cliargs_one (c : Cfg) (a : Atom) : cliargs c [a] none = (atomAct c a).args := by
  rw [cliargs_eq, List.flatMap_cons, List.flatMap_nil, bangArg, List.append_nil, List.append_nil]

theorem cliargs_bang (c : Cfg) (atoms : List Atom) (lb : Bool) (t : Str) :
    cliargs c atoms (some (lb, t)) = cliargs c atoms none ++ [macroArg c lb t] := by
  rw [cliargs, cliargs, bangArg, bangArg, List.append_nil]

theorem atomAct_lit (c : Cfg) (raw f : Bool) (v : Str) :
    atomAct c (.lit raw f v) = .append (if (raw && (!f || c.fstrKeepsRaw)) = true then v else expandPath c.env v) :=
  (apply_ite Act.append ..).symm

/-- a RAW literal is exactly one argument, verbatim -/
theorem C04_raw_one_arg (c : Cfg) (v : Str) : cliargs c [.lit true false v] none = [v] :=
  cliargs_one c _

/-- PARTIAL (raw f-strings): `fr"…"` is one verbatim argument when the f-string rule keeps `is_raw` … -/
theorem C04_raw_fstring_partial (c : Cfg) (v : Str) (h : c.fstrKeepsRaw = true) :
    cliargs c [.lit true true v] none = [v] := by
  rw [cliargs_one, atomAct_lit, h]; rfl

/-- a non-raw literal is exactly one argument: the documented expansion of its value … -/
theorem C04_nonraw_one_arg (c : Cfg) (f : Bool) (v : Str) :
    cliargs c [.lit false f v] none = [expandPath c.env v] :=
  cliargs_one c _

/-- … which is the value itself when it has no `$` and no tilde-prefix: never split at its spaces,
never globbed at its `*`, whatever it contains -/
theorem C04_nonraw_plain (c : Cfg) (f : Bool) (v : Str) (hd : ¬ 36 ∈ v) (ht : tildePrefix c.env v = false) :
    cliargs c [.lit false f v] none = [v] := by
  rw [C04_nonraw_one_arg, C04_expand_id c.env v hd ht]

/-- every literal, whatever its prefix, is exactly ONE argument in its place among the other atoms -/
theorem C04_literal_in_place (c : Cfg) (pre post : List Atom) (raw f : Bool) (v : Str) (bang : Option (Bool × Str)) :
    cliargs c (pre ++ [.lit raw f v] ++ post) bang =
      cliargs c pre none ++ [if (raw && (!f || c.fstrKeepsRaw)) = true then v else expandPath c.env v] ++ cliargs c post bang := by
  rw [cliargs_in_place, atomAct_lit]; rfl

/-- `@(expr)`: the injected strings arrive verbatim, one argument per element, in order, in place —
for ALL values: no re-splitting, no globbing, no expansion -/
theorem C04_inject_verbatim (c : Cfg) (pre post : List Atom) (v : PyVal) (bang : Option (Bool × Str)) :
    cliargs c (pre ++ [.inject v] ++ post) bang = cliargs c pre none ++ injectList v ++ cliargs c post bang :=
  cliargs_in_place c pre post _ bang

theorem C04_inject_strs (xs : List Str) : injectList (.iter (xs.map .str)) = xs := by
  simp [injectList, Item.ensure, Function.comp_def]

theorem C04_inject_str (s : Str) : injectList (.one (.str s)) = [s] := rfl

example (c : Cfg) : cliargs c [.word [97], .inject (.iter [.str [42, 32, 36, 72], .str []]), .lit true false [126]] none =
    [expandPath c.env [97], [42, 32, 36, 72], [], [126]] := by
  simp [cliargs_eq, atomAct, Act.args, bangArg, injectList, Item.ensure, globTrigger]

theorem atomAct_word (c : Cfg) (w : Str) (hw : w.contains globTrigger = false) :
    atomAct c (.word w) = .append (expandPath c.env w) := by
  simp only [atomAct, hw]; rfl

/-- words: as many arguments as words, in order; each is the documented expansion of the word … -/
theorem C04_words (c : Cfg) (ws : List Str) (hg : ∀ w ∈ ws, w.contains globTrigger = false) :
    cliargs c (ws.map .word) none = ws.map (expandPath c.env) := by
  rw [cliargs_eq, bangArg, List.append_nil, List.flatMap_map]
  exact List.flatMap_eq_map _ _ ws fun w hw => by rw [atomAct_word c w (hg w hw)]; rfl

theorem C04_words_count (c : Cfg) (ws : List Str) (hg : ∀ w ∈ ws, w.contains globTrigger = false) :
    (cliargs c (ws.map .word) none).length = ws.length := by
  rw [C04_words c ws hg]; simp

/-- … and the word itself when it has no `*`, no `$` and no tilde-prefix -/
theorem C04_words_verbatim (c : Cfg) (ws : List Str) (hg : ∀ w ∈ ws, w.contains globTrigger = false)
    (hd : ∀ w ∈ ws, ¬ 36 ∈ w) (ht : ∀ w ∈ ws, tildePrefix c.env w = false) :
    cliargs c (ws.map .word) none = ws := by
  rw [C04_words c ws hg]
  exact List.map_id_of_forall _ ws (fun w hw => C04_expand_id c.env w (hd w hw) (ht w hw))

theorem cutAtLB_id (t : Str) (h : ∀ c ∈ t, lbChars.contains c = false) : cutAtLB t = t := by
  induction t with
  | nil => rfl
  | cons c cs ih => rw [List.forall_mem_cons] at h; simp only [cutAtLB, h.1, ih h.2]; rfl

/-- on a line without exotic line-boundary characters the macro argument is the source text, stripped -/
theorem macroArg_clean (c : Cfg) (t : Str) (h : ∀ x ∈ t, lbChars.contains x = false) : macroArg c false t = strip t := by
  unfold macroArg
  split
  · simp [sourceSlice, cutAtLB_id t h]
  · rfl

/-- … and always so once `BaseParser.lines` is cut at `\n` only -/
theorem macroArg_fixed (c : Cfg) (h : c.linesCutAtLB = false) (lb : Bool) (t : Str) : macroArg c lb t = strip t := by
  simp [macroArg, h]

/-- FULL STATEMENT, for the repaired variant (the two translated facts `lines uses splitlines` and
`_append_subproc_bang appends to .elts` both false): after ANY atoms the text following a macro `!` is
exactly ONE more argument at the end, the source text stripped — never split, expanded or globbed -/
theorem C04_macro_raw (c : Cfg) (h1 : c.linesCutAtLB = false) (h2 : c.bangNeedsList = false)
    (atoms : List Atom) (lb : Bool) (t : Str) :
    command c atoms (some (lb, t)) = some (cliargs c atoms none ++ [strip t]) := by
  simp [command, h2, cliargs_bang, macroArg_fixed c h1]

/-- atoms whose parser action is `append`: literals, `@!(…)`, words without `*` -/
def appendAtom : Atom → Bool
  | .word t => !t.contains globTrigger
  | .lit _ _ _ => true
  | .macroAt _ _ => true
  | _ => false

theorem bangFits_append (c : Cfg) (atoms : List Atom) (h : ∀ a ∈ atoms, appendAtom a = true) :
    bangFits (atoms.map (atomAct c)) = true := by
  rw [bangFits, List.all_map, List.all_eq_true]
  intro a ha
  have := h a ha
  cases a with
  | word t => rw [Function.comp, atomAct_word c t (by simpa [appendAtom] using this)]
  | lit raw f v => rw [Function.comp, atomAct_lit]
  | macroAt lb t => rfl
  | inject v | adjacent ps => cases this

/-- PARTIAL, for the code as it is: after words, literals and `@!(…)` the text following a macro `!` is ONE
more argument at the end and, when neither it nor the line before it holds a
U+000B/000C/001C-1E/0085/2028/2029, exactly the source text, stripped -/
theorem C04_macro_raw_partial (c : Cfg) (atoms : List Atom) (t : Str) (ha : ∀ a ∈ atoms, appendAtom a = true)
    (h : ∀ x ∈ t, lbChars.contains x = false) :
    command c atoms (some (false, t)) = some (cliargs c atoms none ++ [strip t]) := by
  -- `command` refuses when `bangNeedsList && !bangFits …`: these atoms' actions fit, so it does not, whatever `bangNeedsList` is
  rw [command, bangFits_append c atoms ha, Bool.not_true, Bool.and_false, if_neg Bool.false_ne_true, cliargs_bang,
    macroArg_clean c t h]

/-- without a macro tail a command always parses (in the model) -/
theorem C04_command_no_bang (c : Cfg) (atoms : List Atom) : command c atoms none = some (cliargs c atoms none) := by
  simp [command]

theorem C04_macro_one_arg (c : Cfg) (atoms : List Atom) (lb : Bool) (t : Str) :
    (cliargs c atoms (some (lb, t))).length = (cliargs c atoms none).length + 1 := by
  rw [cliargs_bang, List.length_append]; rfl

theorem C04_macro_at_partial (c : Cfg) (pre post : List Atom) (t : Str) (bang : Option (Bool × Str))
    (h : ∀ x ∈ t, lbChars.contains x = false) :
    cliargs c (pre ++ [.macroAt false t] ++ post) bang = cliargs c pre none ++ [strip t] ++ cliargs c post bang := by
  -- the action of `@!(t)` is `append (macroArg c false t)`: its arguments are that one string
  have e : (atomAct c (.macroAt false t)).args = [strip t] := congrArg ([·]) (macroArg_clean c t h)
  rw [cliargs_in_place, e]

/-- text that neither begins nor ends with white space is not changed by the strip -/
theorem C04_strip_id (t : Str) (h1 : ∀ x, t.head? = some x → pySpace.contains x = false)
    (h2 : ∀ x, t.reverse.head? = some x → pySpace.contains x = false) : strip t = t := by
  unfold strip
  rw [List.dropWhile_id _ t h1, List.dropWhile_id _ t.reverse h2, List.reverse_reverse]

example : strip [32, 97, 32, 32, 36, 42, 9] = [97, 32, 32, 36, 42] := by decide
example (c : Cfg) : command c [.word [97]] (some (false, [32, 36, 72, 32, 32, 42, 32])) =
    some [expandPath c.env [97], [36, 72, 32, 32, 42]] := by
  rw [C04_macro_raw_partial _ _ _ (by intro a ha; simp at ha; subst ha; decide) (by decide)]
  simp [cliargs_eq, atomAct, Act.args, bangArg, globTrigger]
  decide

def cleanStr (c : Cfg) (s : Str) : Prop :=
  s.contains globTrigger = false ∧ ¬ 36 ∈ s ∧ tildePrefix c.env s = false

/-- PARTIAL: when no combination contains `*`, `$` or a tilde-prefix, the word is the outer product of
its parts, verbatim, in `itertools.product` order -/
theorem C04_adjacent_partial (c : Cfg) (ps : List Part)
    (h : ∀ los ∈ product (ps.map (partStrs c)), cleanStr c los.flatten) :
    cliargs c [.adjacent ps] none = (product (ps.map (partStrs c))).map List.flatten := by
  rw [cliargs_one]
  exact List.flatMap_eq_map _ _ _ fun los hl => by
    obtain ⟨h1, h2, h3⟩ := h los hl
    simp only [h1, Bool.false_eq_true, if_false, C04_expand_id c.env _ h2 h3]

example (c : Cfg) : cliargs c [.adjacent [.text [120], .inj (.iter [.str [97], .str [98]]), .text [121]]] none =
    [[120, 97, 121], [120, 98, 121]] := by
  rw [C04_adjacent_partial]
  · simp [product, partStrs, injectList, Item.ensure]
  · intro los hl
    have : los = [[120], [97], [121]] ∨ los = [[120], [98], [121]] := by
      simpa [product, partStrs, injectList, Item.ensure] using hl
    rcases this with rfl | rfl <;> exact ⟨by decide, by decide, rfl⟩

def demoEnv : Env :=
  { uniWord := fun _ => false
    lookup := fun n => if n = [72] then some [47, 114] else none      -- $H = "/r"
    home := fun n => if n = [] then some [47, 104] else none           -- ~ = "/h"
    expandVars := true, expandUser := true }

example : expandPath demoEnv [36, 72, 47, 120] = [47, 114, 47, 120] := by decide           -- "$H/x" -> "/r/x"
example : expandPath demoEnv [97, 61, 126, 58, 126, 47, 98] = [97, 61, 47, 104, 58, 47, 104, 47, 98] := by decide  -- a=~:~/b
example : expandPath demoEnv [36, 72, 72] = [36, 72, 72] := by decide                      -- "$HH": not set, unchanged
example : expandPath demoEnv [36, 123, 39, 72, 39, 125] = [47, 114] := by decide            -- "${'H'}"

/-- the code as it is (all three translated facts in their defective state) -/
def cexCfg : Cfg :=
  { env := demoEnv
    fstrKeepsRaw := false
    linesCutAtLB := true
    bangNeedsList := true
    glob := fun p => if p = [112, 42, 46, 112, 121] then [[112, 49, 46, 112, 121], [112, 50, 46, 112, 121]] else [] }

/-- COUNTEREXAMPLE (open known finding `adjacent-inject-reinterpreted`): in a directory holding `p1.py`
and `p2.py`, `p@("*.py")` delivers the two file names, not the one argument `p*.py` … -/
theorem C04_adjacent_cex_glob :
    cliargs cexCfg [.adjacent [.text [112], .inj (.one (.str [42, 46, 112, 121]))]] none =
      [[112, 49, 46, 112, 121], [112, 50, 46, 112, 121]] ∧
    cliargs cexCfg [.adjacent [.text [112], .inj (.one (.str [42, 46, 112, 121]))]] none ≠ [[112, 42, 46, 112, 121]] := by
  decide

/-- … and `x@("$H")/y` delivers `x/r/y`: the injected `$H` is expanded, while the stand-alone `@("$H")`
arrives verbatim (`C04_inject_verbatim`) -/
theorem C04_adjacent_cex_expand :
    cliargs cexCfg [.adjacent [.text [120], .inj (.one (.str [36, 72])), .text [47, 121]]] none = [[120, 47, 114, 47, 121]] ∧
    cliargs cexCfg [.inject (.one (.str [36, 72]))] none = [[36, 72]] := by
  decide

/-- the repaired variant -/
def fixedCfg : Cfg := { cexCfg with fstrKeepsRaw := true, linesCutAtLB := false, bangNeedsList := false }

/-- COUNTEREXAMPLE (open known finding `macro-text-cut-at-line-boundary`): `![rec x! a<FF>b]` delivers `a`,
not `a<FF>b`: for the code as it is the statement "the macro argument is the stripped source text" is false -/
theorem C04_macro_raw_cex :
    command cexCfg [] (some (false, [97, 12, 98])) = some [[97]] ∧ strip [97, 12, 98] = [97, 12, 98] := by
  decide

/-- COUNTEREXAMPLE (open known finding `macro-tail-after-extend-crashes`): `rec @("a") ! b` does not run at
all — after an `@()` / glob word / `a@(x)b` atom the parser's `_append_subproc_bang` raises AttributeError -/
theorem C04_macro_after_extend_cex :
    command cexCfg [.inject (.one (.str [97]))] (some (false, [98])) = none := by
  decide

example : command fixedCfg [.inject (.one (.str [97]))] (some (false, [32, 97, 12, 98, 32])) = some [[97], [97, 12, 98]] := by
  rw [C04_macro_raw fixedCfg rfl rfl]; decide

/-- COUNTEREXAMPLE (open known finding `raw-fstring-expanded`): with the f-string rule as it is (no `is_raw`
on the node) `fr"$H"` is expanded although the documentation says raw f-strings only substitute braces -/
theorem C04_raw_fstring_cex :
    cliargs cexCfg [.lit true true [36, 72]] none = [[47, 114]] ∧ cliargs cexCfg [.lit true false [36, 72]] none = [[36, 72]] := by
  decide

theorem splitlinesGo_line (l rest cur : Str) (h : ∀ c ∈ l, isLineEnd c = false) :
    splitlinesGo (l ++ 10 :: rest) cur false = (cur.reverse ++ l) :: splitlinesGo rest [] false := by
  induction l generalizing cur with
  | nil => simp [splitlinesGo, isLineEnd]
  | cons c cs ih =>
    rw [List.forall_mem_cons] at h
    have hc10 : c ≠ 10 := fun e => by simp [e, isLineEnd] at h
    simp only [List.cons_append, splitlinesGo, hc10, false_and, if_false, h.1, Bool.false_eq_true]
    rw [ih (c :: cur) h.2]
    simp

theorem pySplitlines_lines (ls : List Str) (h : ∀ l ∈ ls, ∀ c ∈ l, isLineEnd c = false) :
    pySplitlines (ls.flatMap (· ++ [10])) = ls := by
  unfold pySplitlines
  induction ls with
  | nil => simp [splitlinesGo]
  | cons l ls ih =>
    rw [List.forall_mem_cons] at h
    simp only [List.flatMap_cons, List.append_assoc, List.singleton_append]
    rw [splitlinesGo_line l _ [] h.1, ih h.2]; rfl

/-- THE CONTRACT of `@$()`: for EVERY per-line splitter and every output, the arguments are the
concatenation of what the splitter answers for each line on its own, in order — the splitter never sees
two lines at once (so a backslash at the end of a line continues nothing, and the indentation of one
line means nothing to the next).  An implementation that hands the joined text to the lexer is a
correspondence break: the harness compares with this function. -/
theorem C04_captured_inject_per_line (split : Str → List Str) (ls : List Str)
    (h : ∀ l ∈ ls, ∀ c ∈ l, isLineEnd c = false) :
    capturedInject split (ls.flatMap (· ++ [10])) = ls.flatMap split := by
  unfold capturedInject
  rw [pySplitlines_lines ls h]

example : capturedInject (fun l => [l]) [67, 58, 92, 10, 32, 110, 10] = [[67, 58, 92], [32, 110]] := by decide
example : pySplitlines [97, 13, 10, 98, 12, 99, 10, 10] = [[97], [98], [99], []] := by decide

/-- `resolve_args_list` only splices list-valued entries: string entries pass one-to-one -/
theorem C04_alias_argv (args : List Str) : aliasArgv args = args := by
  induction args with
  | nil => rfl
  | cons a as ih => simp_all [aliasArgv, resolveArgsList]

theorem replaceChar_id (old : Nat) (new s : Str) (h : ¬ old ∈ s) : replaceChar old new s = s := by
  induction s with
  | nil => rfl
  | cons c cs ih => rw [List.mem_cons, not_or] at h; simp [replaceChar, Ne.symm h.1, ih h.2]

/-- for arguments without NUL a callable alias and a real child process are handed the same list
(model level; the OS/`Popen` leg is tied by the real-child stream) -/
theorem C04_same_argv (args : List Str) (h : ∀ a ∈ args, ¬ 0 ∈ a) : popenArgv args = aliasArgv args := by
  rw [popenArgv, ← aliasArgv, C04_alias_argv]
  exact List.map_id_of_forall _ args fun a ha => replaceChar_id 0 _ a (h a ha)

example : popenArgv [[97, 0, 98]] = [[97, 92, 48, 98]] := by decide
example : aliasArgv [[97, 0, 98]] = [[97, 0, 98]] := by decide
