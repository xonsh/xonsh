/-
C18 — Tab-completing a path always inserts text that means that path.

Model: XonshVerif/Model/PathQuote.lean (completer + reader), tied to xonsh/completers/path.py,
xonsh/lib/completion_quoting.py and the tokenizer / lexer / parser / expand_path by xv/props/c18.py
(real files, real completer, the completed line EXECUTED).  The character class and keywords of
`_PATTERN`, `_CONTROL_CHAR_ESCAPE`, `name_needs_quotes`, `_quote_to_use` and `_raw_quote` are
TRANSLATED from /repo on every run (Gen/Quote.lean); the theorems below are re-checked against them.

Clause 1 (round trip): `C18_roundtrip_partial` / `C18_roundtrip_gen` under the exact decidable guard
`classify … = []` (proved as `PathQuote.roundtrip`, Lemmas/PathQuoteRound.lean); the unrestricted statement is
FALSE on the unchanged code: one `C18_cex_…` per class.
Clause 2 (the completion-context analyser never fails; prefix / suffix reproduce the text around the
cursor) is NOT proved — the PLY parser is not modelled; the predicate `reconstructs` is stated here
(with what it buys: `C18_reconstructs_splits`, `C18_splice_keeps_context`) and evaluated by the driver
on the real analyser's output.
-/
import XonshVerif.Lemmas.PathQuoteRound
import XonshVerif.Gen.Quote
open PathQuote

theorem C18_gen_quoteToUse (x : Str) : Gen.Quote.quoteToUse x = quoteToUseRef x := by
  simp only [Gen.Quote.quoteToUse, quoteToUseRef, isInfix_singleton]; rfl

theorem C18_gen_rawQuote (s : Str) : Gen.Quote.rawQuote s = rawQuoteRef s := rfl

/-- `_PATTERN.search(name)` in the model's terms -/
def patternSearch (T : Tables) (s : Str) : Bool := s.any T.special || T.keywords.any (fun k => hasWord T k none s)

theorem C18_gen_needsQuotes (T : Tables) (s : Str) :
    Gen.Quote.nameNeedsQuotes (patternSearch T) s ['/'] = needsQuotes T s := by
  simp only [Gen.Quote.nameNeedsQuotes, needsQuotes, patternSearch, isInfix_singleton, Bool.false_eq_true, if_false]
  cases (s.any T.special || T.keywords.any fun k => hasWord T k none s) <;> simp [bs]

theorem C18_tables_ok : TablesOk Gen.Quote.tables where
  unsafeSpecial := by decide +kernel
  kwQuoted := by decide +kernel
  ctrlKeysSub := by decide +kernel
  ctrlKeysSup := by decide +kernel
  ctrlVals := by decide +kernel
  slashPlain := by decide +kernel
  quoteToUse := C18_gen_quoteToUse
  rawQuote := C18_gen_rawQuote

/-- the opening quotes the theorem covers -/
def openings : List Str := [[], [sq], [dq], ['r', sq], ['r', dq], [sq, sq, sq], [dq, dq, dq]]

theorem openings_cases {o : Str} (ho : o ∈ openings) : Opening o := by
  simp only [openings, List.mem_cons, List.mem_nil_iff, or_false] at ho
  rcases ho with rfl | rfl | rfl | rfl | rfl | rfl | rfl
  · exact Or.inl rfl
  · exact Or.inr ⟨false, sq, false, Or.inl rfl, rfl⟩
  · exact Or.inr ⟨false, dq, false, Or.inr rfl, rfl⟩
  · exact Or.inr ⟨true, sq, false, Or.inl rfl, rfl⟩
  · exact Or.inr ⟨true, dq, false, Or.inr rfl, rfl⟩
  · exact Or.inr ⟨false, sq, true, Or.inl rfl, rfl⟩
  · exact Or.inr ⟨false, dq, true, Or.inr rfl, rfl⟩

/-- **C18 (round trip, partial).**  For EVERY non-empty name, each of the seven opening styles, every
cursor position relative to the typed quotes, files and directories alike: if the name is outside the
classes of `classify` (each of which is a reproduced defect with its own counterexample below) then EVERY
text the completer offers for it, followed by what stays in the line, is read back by xonsh as exactly one argument:
the name (with the separator the completer appends to a directory).
`wq`, `se` select the model variant that matches the implementation (probed by the harness on every run):
`wq` = the closing-quote test compares the whole quote (repaired in /repo 6047536), `se` = the escape table
also escapes the six remaining line boundaries (repaired in 00e7ff2).  For `se = true` the PROOF covers the
names without those six characters (`hscope`; the reader model has no `\xHH` / `\uHHHH` escapes): names with
them are then no class of defects in a non-raw literal — they are tied by execution only. -/
theorem C18_roundtrip_partial (T : Tables) (ok : TablesOk T) (E : Env) (wq se : Bool) (name o : Str) (te : Bool)
    (m : Mode) (dfs : Bool) (hname : name ≠ []) (ho : o ∈ openings)
    (hcls : classify T E wq se name o te m dfs = [])
    (hscope : se = true → name.any (fun c => unescapedBreaks.contains c) = false) :
    ∀ t ∈ completions T E name (seenStyle wq o te m).1 (seenStyle wq o te m).2.1 dfs (seenStyle wq o te m).2.2,
      readBack T E (t ++ lineTail o m) = .args [name ++ dirTail (isDirEff T E name name dfs)] :=
  roundtrip ok E wq se name o te m dfs hname (openings_cases ho) hcls hscope

/-- the same for the tables translated from /repo's current source -/
theorem C18_roundtrip_gen (E : Env) (wq se : Bool) (name o : Str) (te : Bool) (m : Mode) (dfs : Bool) (hname : name ≠ [])
    (ho : o ∈ openings) (hcls : classify Gen.Quote.tables E wq se name o te m dfs = [])
    (hscope : se = true → name.any (fun c => unescapedBreaks.contains c) = false) :
    ∀ t ∈ completions Gen.Quote.tables E name (seenStyle wq o te m).1 (seenStyle wq o te m).2.1 dfs (seenStyle wq o te m).2.2,
      readBack Gen.Quote.tables E (t ++ lineTail o m) =
        .args [name ++ dirTail (isDirEff Gen.Quote.tables E name name dfs)] :=
  C18_roundtrip_partial Gen.Quote.tables C18_tables_ok E wq se name o te m dfs hname ho hcls hscope

/-- **needs-quotes is sound**: a name that `name_needs_quotes` lets through unquoted, outside the
bare-word classes, reads back as itself when inserted bare (followed by the completer's space). -/
theorem C18_needs_quotes_sound (T : Tables) (ok : TablesOk T) (E : Env) (name : Str) (hname : name ≠ [])
    (hn : needsQuotes T name = false)
    (hB : name.any (fun c => unescapedBreaks.contains c) = false)
    (hbang : bangSplit name = none) (hodd : name.any (oddChar T) = false) (hpy : pyStmt name = false)
    (hexp : expandPath T E name = name) :
    readBack T E (name ++ [' ']) = .args [name] := by
  simpa [dirTail, hexp] using readBack_plain ok E name hname hn hB hbang hodd hpy false [' '] rfl

/-- whenever the completer leaves a name unquoted, the name has none of the characters that end or
change a bare word (so a character dropped from `_PATTERN`'s class breaks `C18_tables_ok`) -/
theorem C18_unquoted_is_plain (T : Tables) (ok : TablesOk T) (name : Str) (hn : needsQuotes T name = false) :
    ∀ c ∈ name, c ∉ bareUnsafe := by
  intro c hc hu
  exact List.any_eq_false.mp (plain_chars ok hn) c hc (List.contains_iff_mem.mpr hu)

/-! A concrete reader environment: `$XVVAR` is set, the current user's home is `/h`, user `root` exists. -/

def s (x : String) : Str := x.toList

def E0 : Env where
  vars := fun n => if n == s "XVVAR" then some (s "VALUE") else none
  home := fun u => if u == [] then some (s "/h") else if u == s "root" then some (s "/root") else none

abbrev G := Gen.Quote.tables

/-- what the model completer offers, and how each text (plus what stays in the line) is read -/
def offerV (wq : Bool) (name o : Str) (te : Bool) (m : Mode) (dfs : Bool) : List (Str × Read) :=
  (completions G E0 name (seenStyle wq o te m).1 (seenStyle wq o te m).2.1 dfs (seenStyle wq o te m).2.2).map
    fun t => (t, readBack G E0 (t ++ lineTail o m))

/-- … by the UNCHANGED code (the one-character closing-quote test) -/
abbrev offer := offerV false

/-- a name ending in a backslash: the raw string doubles it -/
theorem C18_cex_trailing_backslash :
    offer (s "e\\") [] true .atEnd false = [(s "r'e\\\\' ", .args [s "e\\\\"])] ∧
    classify G E0 false false (s "e\\") [] true .atEnd false = [.trailingBackslash] := by decide +kernel

/-- … and a name ending in TWO backslashes gets a third: the literal no longer ends -/
theorem C18_cex_trailing_backslash_pair :
    offer (s "\\\\") [] true .atEnd false = [(s "r'\\\\\\' ", .error)] := by decide +kernel

/-- `!` is not in the needs-quotes class: the subprocess macro splits the word -/
theorem C18_cex_bang :
    offer (s "a!b") [] true .atEnd false = [(s "a!b ", .args [s "a", s "b"])] ∧
    offer (s "!x") [] true .atEnd false = [(s "!x ", .args [s "x"])] ∧
    classify G E0 false false (s "a!b") [] true .atEnd false = [.bangUnquoted] := by decide +kernel

/-- both quote kinds and `$`: a raw string in which the quote is "escaped" keeps the backslash -/
theorem C18_cex_raw_quote_conflict :
    offer (s "a'b\"$c") [] true .atEnd false = [(s "r'a\\'b\"$c' ", .args [s "a\\'b\"$c"])] ∧
    classify G E0 false false (s "a'b\"$c") [] true .atEnd false = [.rawQuoteConflict] := by decide +kernel

/-- a control character forces a NON-raw literal, in which `$VAR` is expanded -/
theorem C18_cex_dollar_expansion :
    offer (s "n\n$XVVAR") [] true .atEnd false = [(s "'n\\n$XVVAR' ", .args [s "n\nVALUE"])] ∧
    classify G E0 false false (s "n\n$XVVAR") [] true .atEnd false = [.dollarExpansion] := by decide +kernel

/-- `~user`, and `~` after `=` or `:`, are expanded in bare words and non-raw literals -/
theorem C18_cex_tilde_expansion :
    offer (s "~root") [] true .atEnd false = [(s "~root ", .args [s "/root"])] ∧
    offer (s "x=~") [] true .atEnd false = [(s "x=~ ", .args [s "x=/h"])] ∧
    offer (s "a b=~") [] true .atEnd false = [(s "'a b=~' ", .args [s "a b=/h"])] ∧
    classify G E0 false false (s "~root") [] true .atEnd false = [.tildeExpansion] := by decide +kernel

/-- `_normpath` strips trailing spaces: the completion names another file -/
theorem C18_cex_trailing_space :
    offer (s "tr ") [] true .atEnd false = [(s "tr ", .args [s "tr"])] ∧
    classify G E0 false false (s "tr ") [] true .atEnd false = [.trailingSpace] := by decide +kernel

/-- PINNED SNAPSHOT's behaviour (variant `se = false`, /repo before 00e7ff2; known finding `line-separator`, now
"fixed: 00e7ff2"): a line boundary of `str.splitlines` that `_CONTROL_CHAR_ESCAPE` does not escape stays verbatim in
the literal (the Execer then cuts the line there; the model's reader declines such text).
With the repaired table (`se = true`) the class is gone for a non-raw literal; what REMAINS is the opened RAW
quote, where the new escape is written into a raw string like the old five (finding `raw-control-char`). -/
theorem C18_cex_line_separator :
    (offer [ 'a', Char.ofNat 0x1c, 'b' ] [] true .atEnd false).map (·.1) = [[sq, 'a', Char.ofNat 0x1c, 'b', sq, ' ']] ∧
    classify G E0 false false [ 'a', Char.ofNat 0x1c, 'b' ] [] true .atEnd false = [.lineSeparator] ∧
    classify G E0 false true [ 'a', Char.ofNat 0x1c, 'b' ] [] true .atEnd false = [] ∧
    classify G E0 false true [ 'a', Char.ofNat 0x1c, 'b' ] (s "r'") true .atEnd false = [.rawControlChar] := by
  decide +kernel

/-- the user opened a RAW quote and the name has a character that `_CONTROL_CHAR_ESCAPE` escapes: `\n` (since
00e7ff2 also `\x1c` … `\u2029`, see `C18_cex_line_separator`) is written into a raw string -/
theorem C18_cex_raw_control_char :
    offer (s "n\nx") (s "r'") true .atEnd false = [(s "r'n\\nx' ", .args [s "n\\nx"])] ∧
    classify G E0 false false (s "n\nx") (s "r'") true .atEnd false = [.rawControlChar] := by decide +kernel

/-- a triple quote was opened and the name ends in that quote character: four quotes in a row -/
theorem C18_cex_triple_quote_end :
    (offer (s "x'") (s "'''") false .atEnd false).map (·.1) = [s "'''x'''' "] ∧
    (offer (s "x'") (s "'''") false .atEnd false).map (·.2) ≠ [.args [s "x'"]] ∧
    classify G E0 false false (s "x'") (s "'''") false .atEnd false = [.tripleQuoteEnd] := by decide +kernel

/-- PINNED SNAPSHOT's behaviour (variant `wq = false`, /repo before 6047536; known finding
`triple-quote-cursor-inside`, now "fixed: 6047536"): the cursor is inside a CLOSED triple quote and the closing
quote is inserted a second time; then the repaired variant `wq = true`. -/
theorem C18_cex_triple_cursor_inside :
    offer (s "ab") (s "'''") false .closedInside false = [(s "'''ab''' ", .unmodelled)] ∧
    classify G E0 false false (s "ab") (s "'''") false .closedInside false = [.tripleCursorInside] ∧
    -- the repaired variant (the whole closing quote is compared): the class is gone and the text reads back
    classify G E0 true false (s "ab") (s "'''") false .closedInside false = [] ∧
    offerV true (s "ab") (s "'''") false .closedInside false = [(s "'''ab", .args [s "ab"])] := by decide +kernel

/-- a lone opening quote is not recognised: the candidate (here one containing that quote) replaces it
and the closing quote the user had typed stays behind -/
theorem C18_cex_lone_quote_inside :
    offer (s "x'y") (s "'") true .closedInside false = [(s "\"x'y\" ", .unmodelled)] ∧
    classify G E0 false false (s "x'y") (s "'") true .closedInside false = [.loneQuoteInside] := by decide +kernel

/-- the r'~' entry of the `~` special case brings its own closing quote even when one is already there -/
theorem C18_cex_tilde_cursor_inside :
    offer (s "~") (s "'") false .closedInside false = [(s "r'~'", .unmodelled)] ∧
    classify G E0 false false (s "~") (s "'") false .closedInside false = [.tildeCursorInside] := by decide +kernel

/-- outside the reader model (observed on the real code by the harness): a `\w` character that cannot
start an identifier, and a word that turns the line into a Python statement -/
theorem C18_cex_unmodelled_bare :
    offer [Char.ofNat 0xb2] [] true .atEnd false = [([Char.ofNat 0xb2, ' '], .unmodelled)] ∧
    classify G E0 false false [Char.ofNat 0xb2] [] true .atEnd false = [.oddToken] ∧
    offer (s "=x") [] true .atEnd false = [(s "=x ", .unmodelled)] ∧
    classify G E0 false false (s "=x") [] true .atEnd false = [.pythonStatement] := by decide +kernel

/-! ## the guard is satisfiable, and the theorem says something about ordinary nasty names -/

example : classify G E0 false false (s "sp ace") [] true .atEnd false = [] ∧
    offer (s "sp ace") [] true .atEnd false = [(s "'sp ace' ", .args [s "sp ace"])] := by decide +kernel
example : classify G E0 false false (s "do$l\\ar") [] true .atEnd false = [] ∧
    offer (s "do$l\\ar") [] true .atEnd false = [(s "r'do$l\\ar' ", .args [s "do$l\\ar"])] := by decide +kernel
example : classify G E0 false false (s "it's") [] true .atEnd true = [] ∧
    offer (s "it's") [] true .atEnd true = [(s "\"it's/\"", .args [s "it's/"])] := by decide +kernel
example : classify G E0 false false (s "a\tb\\c\"") (s "\"") false .closedInside false = [] ∧
    offer (s "a\tb\\c\"") (s "\"") false .closedInside false = [(s "\"a\\tb\\\\c\\\"", .args [s "a\tb\\c\""])] := by
  decide +kernel
example : classify G E0 false false (s "~") [] true .atEnd false = [] ∧
    offer (s "~") [] true .atEnd false = [(s "r'~'", .args [s "~"])] := by decide +kernel
example : classify G E0 false false (s "and") [] true .atEnd false = [] ∧
    offer (s "and") [] true .atEnd false = [(s "'and' ", .args [s "and"])] := by decide +kernel
example : classify G E0 false false (s "#x") (s "'''") false .atEnd false = [] ∧
    offer (s "#x") (s "'''") false .atEnd false = [(s "'''#x''' ", .args [s "#x"])] := by decide +kernel
/-- a triple-quoted candidate with quotes of its own kind inside: one, two, and three in a row -/
example : classify G E0 false false (s "a'b''c'''d") (s "'''") false .atEnd false = [] ∧
    offer (s "a'b''c'''d") (s "'''") false .atEnd false =
      [(s "'''a'b''c\\'\\'\\'d''' ", .args [s "a'b''c'''d"])] := by decide +kernel
/-- the hypotheses of `C18_roundtrip_gen` hold of a concrete instance, and its conclusion is the executed fact -/
example : ∀ t ∈ completions G E0 (s "a;b|c") (seenStyle false (s "r\"") false .atEnd).1 (seenStyle false (s "r\"") false .atEnd).2.1 false
      (seenStyle false (s "r\"") false .atEnd).2.2,
    readBack G E0 (t ++ lineTail (s "r\"") .atEnd) = .args [s "a;b|c" ++ dirTail (isDirEff G E0 (s "a;b|c") (s "a;b|c") false)] :=
  C18_roundtrip_gen E0 false false (s "a;b|c") (s "r\"") false .atEnd false (by decide) (by decide) (by decide +kernel)
    (by decide)

/-! ## the analyser clause: what `reconstructs` buys (the analyser itself is not modelled) -/

/-- if the context reconstructs the text then the line IS `pre ++ rawPrefix ++ rawSuffix ++ post`, with
the cursor right after the raw prefix -/
theorem C18_reconstructs_splits (text : Str) (cursor : Nat) (c : CmdCtx) (hc : cursor ≤ text.length)
    (h : reconstructs text cursor c = true) :
    ∃ pre post, text = pre ++ c.rawPrefix ++ (c.rawSuffix ++ post) ∧ (pre ++ c.rawPrefix).length = cursor := by
  simp only [reconstructs, endsWith, startsWith, Bool.and_eq_true] at h
  obtain ⟨pre, hpre⟩ := List.isSuffixOf_iff_suffix.mp h.1
  obtain ⟨post, hpost⟩ := List.isPrefixOf_iff_prefix.mp h.2
  refine ⟨pre, post, ?_, ?_⟩
  · rw [hpre, hpost, List.take_append_drop]
  · rw [hpre, List.length_take, Nat.min_eq_left hc]

/-- … and replacing exactly the raw prefix (what a completer does with `lprefix = len(raw_prefix)`) puts the
completion between the untouched text before the argument and the untouched text after the cursor -/
theorem C18_splice_keeps_context (text : Str) (cursor : Nat) (c : CmdCtx) (comp : Str) (hc : cursor ≤ text.length)
    (h : reconstructs text cursor c = true) :
    ∃ pre post, text = pre ++ c.rawPrefix ++ (c.rawSuffix ++ post) ∧
      splice text cursor c.rawPrefix.length comp = pre ++ comp ++ (c.rawSuffix ++ post) := by
  obtain ⟨pre, post, ht, hl⟩ := C18_reconstructs_splits text cursor c hc h
  refine ⟨pre, post, ht, ?_⟩
  have h1 : cursor - c.rawPrefix.length = pre.length := by
    rw [← hl, List.length_append]; omega
  unfold splice
  rw [h1]
  have h2 : text.take pre.length = pre := by
    rw [ht, List.append_assoc]; exact List.take_left' rfl
  have h3 : text.drop cursor = c.rawSuffix ++ post := by
    rw [ht, ← hl]; exact List.drop_left' rfl
  rw [h2, h3]

/-- the predicate is not vacuous: it holds of `ls 'a b|c'` with the cursor after `b`, fails when the prefix is wrong -/
example : reconstructs (s "ls 'a bc'") 7 ⟨s "'", s "a b", s "c", s "'", false⟩ = true ∧
    reconstructs (s "ls 'a bc'") 7 ⟨s "'", s "a", s "c", s "'", false⟩ = false ∧
    reconstructs (s "ls '''t'''") 8 ⟨s "'''", s "t", [], s "'''", false⟩ = false := by decide
