/-
C08 — Command lookup equals a POSIX $PATH search and never goes stale.
Theorems over `PathLookup` (tied to xonsh/procs/executables.py and xonsh/commands_cache.py by
xv/props/c08.py).
-/
import XonshVerif.Model.PathLookup
import XonshVerif.Lemmas.ListFacts
open PathLookup

theorem find_dedup (q : Dir → Bool) (l seen : List Dir) (hs : ∀ x ∈ seen, q x = false) :
    (dedup l seen).find? q = l.find? q := by
  induction l generalizing seen with
  | nil => rfl
  | cons d ds ih =>
    rw [dedup, List.find?_cons]
    split
    · rename_i hd
      rw [hs d (by simpa using hd)]
      exact ih seen hs
    · rw [List.find?_cons]
      cases hq : q d
      · exact ih (d :: seen) (List.forall_mem_cons.mpr ⟨hq, hs⟩)
      · rfl

/-- C08 (lookup): for EVERY `$PATH` list — duplicates, symlinked, relative, missing and
non-directory entries included — and EVERY file-system oracle, xonsh's scan (realpath, first
occurrence only, existing directories only) finds exactly what walking `$PATH` in its own order
finds: the first entry that is a directory holding an executable regular file of that name. -/
theorem C08_locate_is_posix (fs : Fs) (ok : FsOk fs) (paths : List Dir) (n : Name) :
    locate fs paths n = posixFirst fs paths n := by
  unfold locate posixFirst clearPaths
  rw [List.find?_filter, find_dedup _ _ [] nofun, List.find?_map]
  congr 1
  apply List.find?_congr
  intro d _
  simp [Function.comp, ok.dirRp, ok.execRp]

/-- a bare name is never resolved against anything but `$PATH` entries: the directory of a hit is (the
real path of) an entry of `$PATH` — the current directory only if `$PATH` lists it -/
theorem C08_hit_is_on_path (fs : Fs) (ok : FsOk fs) (paths : List Dir) (n : Name) (d : Dir)
    (h : locate fs paths n = some d) : ∃ p ∈ paths, fs.rp p = d ∧ fs.hasExec p n = true := by
  rw [C08_locate_is_posix fs ok, posixFirst, Option.map_eq_some_iff] at h
  obtain ⟨p, hf, hd⟩ := h
  have hp := List.find?_some hf
  simp only [Bool.and_eq_true] at hp
  exact ⟨p, List.mem_of_find?_eq_some hf, hd, hp.2⟩

theorem lookup_setAssoc {α : Type} (l : List (Nat × α)) (k k' : Nat) (v : α) :
    (setAssoc l k v).lookup k' = if k' = k then some v else l.lookup k' := List.lookup_cons_filter_ne l k k' v

theorem foldl_setAssoc_lookup (names : List Name) (d : Dir) (acc : List (Name × Dir)) (n : Name) :
    (names.foldl (fun a m => setAssoc a m d) acc).lookup n = if names.contains n then some d else acc.lookup n := by
  induction names generalizing acc with
  | nil => rfl
  | cons m ms ih =>
    rw [List.foldl_cons, ih, lookup_setAssoc, List.contains_cons]
    by_cases e : n = m <;> cases ms.contains n <;> simp [e]

def namesOf (pc : List (Dir × Nat × List Name)) (d : Dir) : List Name := ((pc.lookup d).map (·.2)).getD []

/-- FRONT OF `$PATH` WINS: iterating back to front, the table serves a name from the front-most
directory whose cached listing has it -/
theorem buildCmds_lookup (pc : List (Dir × Nat × List Name)) (ds : List Dir) (acc : List (Name × Dir)) (n : Name) :
    (buildCmds pc ds acc).lookup n = (ds.reverse.find? fun d => (namesOf pc d).contains n).or (acc.lookup n) := by
  induction ds generalizing acc with
  | nil => rfl
  | cons d rest ih =>
    show (buildCmds pc rest ((namesOf pc d).foldl (fun a n => setAssoc a n d) acc)).lookup n = _
    rw [ih, foldl_setAssoc_lookup, List.reverse_cons, List.find?_append, Option.or_assoc, List.find?_cons]
    cases (namesOf pc d).contains n <;> rfl

/-- the cache invariant: a cached listing whose mtime is the directory's current mtime is the
directory's current content, and the command table was built from the cached listings for the
`$PATH` it remembers -/
structure CacheInv (w : World) (c : Cache) : Prop where
  valid : ∀ d m names, c.paths.lookup d = some (m, names) → m = w.mt d → names = w.ex d
  built : ∀ p, c.lastPath = some p → c.cmds = buildCmds c.paths p.reverse []

/-- the `valid` field of `CacheInv`, for a table of listings by itself -/
def ListingsValid (w : World) (pc : List (Dir × Nat × List Name)) : Prop :=
  ∀ d m names, pc.lookup d = some (m, names) → m = w.mt d → names = w.ex d

theorem ListingsValid.rescan {w : World} {pc : List (Dir × Nat × List Name)} (hv : ListingsValid w pc) (d₀ : Dir) :
    ListingsValid w (setAssoc pc d₀ (w.mt d₀, w.ex d₀)) := by
  intro d m names hd hm
  rw [lookup_setAssoc] at hd
  split at hd
  · cases hd; subst_vars; rfl
  · exact hv d m names hd hm

theorem refreshDirs_lookup (w : World) (ds : List Dir) (pc : List (Dir × Nat × List Name)) (upd : Bool) (hv : ListingsValid w pc)
    (d : Dir) : (refreshDirs w ds pc upd).1.lookup d = if d ∈ ds then some (w.mt d, w.ex d) else pc.lookup d := by
  fun_induction refreshDirs w ds pc upd with
  | case1 => simp
  | case2 d₀ rest pc upd m names hl hm ih | case4 d₀ rest pc upd hl ih =>
    -- rescanned
    rw [ih (hv.rescan d₀), lookup_setAssoc]
    by_cases e : d = d₀ <;> simp [e]
  | case3 d₀ rest pc upd m names hl hm ih =>
    -- kept: a listing that carries the current mtime is the current listing (`hv`)
    have hm : m = w.mt d₀ := by simpa using hm
    rw [ih hv]
    by_cases e : d = d₀
    · simp [e, hl, hm, hv d₀ m names hl hm]
    · simp [e]

theorem refreshDirs_unchanged {w : World} {ds : List Dir} {pc : List (Dir × Nat × List Name)} {upd : Bool} :
    (refreshDirs w ds pc upd).2 = false → (refreshDirs w ds pc upd).1 = pc ∧ upd = false := by
  fun_induction refreshDirs w ds pc upd with
  | case1 => exact fun h => ⟨rfl, h⟩
  | case2 d ds pc upd m names hl hm ih => exact fun h => nomatch (ih h).2
  | case3 d ds pc upd m names hl hm ih => exact ih
  | case4 d ds pc upd hl ih => exact fun h => nomatch (ih h).2

theorem updateCache_eq_rebuild (w : World) (c : Cache) (h : CacheInv w c) :
    updateCache w c =
      { paths := (refreshDirs w w.path.reverse c.paths false).1,
        cmds := buildCmds (refreshDirs w w.path.reverse c.paths false).1 w.path.reverse [],
        lastPath := some w.path } := by
  show (if _ then _ else _) = _
  split
  · rfl
  · rename_i hre
    -- no rebuild: nothing was rescanned, and `$PATH` is the remembered one, for which `built` gives the table
    simp only [Bool.or_eq_true, not_or, Bool.not_eq_true, bne_eq_false_iff_eq] at hre
    rw [(refreshDirs_unchanged hre.1).1, ← h.built _ hre.2, ← hre.2]

/-- one lookup through a cache that satisfies the invariant: the answer is what the file system says now, and the
invariant holds again — for any `$PATH`, whatever was looked up, created or deleted before -/
theorem C08_cache_lookup (w : World) (c : Cache) (h : CacheInv w c) (n : Name) :
    (cacheLookup w c n).2 = worldLocate w n ∧ CacheInv w (cacheLookup w c n).1 := by
  have hl := refreshDirs_lookup w w.path.reverse c.paths false h.valid
  rw [cacheLookup, updateCache_eq_rebuild w c h]
  refine ⟨?_, fun d m names hd hm => ?_, fun p hp => by cases hp; rfl⟩
  · rw [buildCmds_lookup, List.reverse_reverse, List.lookup_nil, Option.or_none, worldLocate]
    exact List.find?_congr _ _ _ fun d hd => by rw [namesOf, hl, if_pos (List.mem_reverse.mpr hd)]; rfl
  · rw [hl] at hd
    split at hd
    · cases hd; rfl
    · exact h.valid d m names hd hm

/-- operations that obey the cache's assumption about the file system -/
def tame : Op → Bool
  | .chmodOff _ _ => false
  | .setMtime _ _ => false
  | _ => true

/-- the one way a tame operation touches what the cache relies on: the content of a directory changes and its mtime moves on -/
theorem bump_mt (w : World) (d : Dir) (ex' : List Name) (x : Dir) :
    (bump { w with execs := setAssoc w.execs d ex' } d).mt x = if x = d then w.mt d + 1 else w.mt x := by
  simp only [bump, World.mt, lookup_setAssoc]; split <;> rfl

theorem bump_ex (w : World) (d : Dir) (ex' : List Name) (x : Dir) (hx : x ≠ d) :
    (bump { w with execs := setAssoc w.execs d ex' } d).ex x = w.ex x := by
  simp [bump, World.ex, lookup_setAssoc, hx]

/-- no cached listing of `d` carries an mtime beyond `d`'s -/
def Fresh (w : World) (c : Cache) (d : Dir) : Prop := ∀ m names, c.paths.lookup d = some (m, names) → m ≤ w.mt d

def Mono (w : World) (c : Cache) : Prop := ∀ d, Fresh w c d

theorem inv_of_bump (w : World) (c : Cache) (d : Dir) (ex' : List Name) (h : CacheInv w c) (hf : Fresh w c d) :
    CacheInv (bump { w with execs := setAssoc w.execs d ex' } d) c := by
  refine ⟨fun x m names hl hm => ?_, h.built⟩
  rw [bump_mt] at hm
  split at hm
  · subst_vars; have := hf _ names hl; omega
  · rename_i hx; rw [bump_ex w d ex' x hx]; exact h.valid x m names hl hm

theorem bump_mono (w : World) (c : Cache) (d : Dir) (ex' : List Name) (h : Mono w c) :
    Mono (bump { w with execs := setAssoc w.execs d ex' } d) c := by
  intro x m names hl
  have := h x m names hl
  rw [bump_mt]; split
  · subst_vars; omega
  · exact this

def changedDir : Op → Option Dir
  | .create d _ | .delete d _ => some d
  | _ => none

/-- file-system events that obey the clock assumption keep the invariant: creating or deleting an entry moves the
directory's mtime to a value no cached listing carries (`Fresh`), a `$PATH` edit touches no directory -/
theorem step_tame (w : World) (c : Cache) (op : Op) (ht : tame op = true) (h : CacheInv w c)
    (hf : ∀ d ∈ changedDir op, Fresh w c d) :
    CacheInv (stepWorld w op) c ∧ (Mono w c → Mono (stepWorld w op) c) := by
  cases op with
  | lookup | setPath => exact ⟨⟨h.valid, h.built⟩, id⟩
  | chmodOff | setMtime => cases ht
  | create d x =>
    rw [stepWorld]; split
    · exact ⟨h, id⟩
    · exact ⟨inv_of_bump w c d _ h (hf d rfl), bump_mono w c d _⟩
  | delete d x =>
    rw [stepWorld]; split
    · exact ⟨inv_of_bump w c d _ h (hf d rfl), bump_mono w c d _⟩
    · exact ⟨h, id⟩

theorem lookup_after (w : World) (c : Cache) (h : CacheInv w c) (op : Op) (ht : tame op = true)
    (hf : ∀ d ∈ changedDir op, Fresh w c d) (n : Name) :
    (cacheLookup (stepWorld w op) c n).2 = worldLocate (stepWorld w op) n :=
  (C08_cache_lookup _ c (step_tame w c op ht h hf).1 n).1

/-- PARTIAL: after a `$PATH` edit (any reorder, removal, emptying) the next lookup agrees with the file system -/
theorem C08_cache_after_path_edit (w : World) (c : Cache) (h : CacheInv w c) (p : List Dir) (n : Name) :
    (cacheLookup { w with path := p } c n).2 = worldLocate { w with path := p } n :=
  lookup_after w c h (.setPath p) rfl nofun n

/-- PARTIAL: after an executable appeared or disappeared (directory mtime moved on) the next lookup agrees -/
theorem C08_cache_after_create (w : World) (c : Cache) (h : CacheInv w c) (d : Dir) (x n : Name)
    (hf : Fresh w c d) (hx : (w.ex d).contains x = false) :
    (cacheLookup (stepWorld w (.create d x)) c n).2 = worldLocate (stepWorld w (.create d x)) n :=
  lookup_after w c h _ rfl (fun _ e => by cases e; exact hf) n

theorem C08_cache_after_delete (w : World) (c : Cache) (h : CacheInv w c) (d : Dir) (x n : Name)
    (hf : Fresh w c d) (hx : (w.ex d).contains x = true) :
    (cacheLookup (stepWorld w (.delete d x)) c n).2 = worldLocate (stepWorld w (.delete d x)) n :=
  lookup_after w c h _ rfl (fun _ e => by cases e; exact hf) n

theorem empty_inv (w : World) : CacheInv w Cache.empty := ⟨nofun, nofun⟩

/-- the very first lookup of a session agrees with the file system, whatever it looks like -/
theorem C08_cache_first_lookup (w : World) (n : Name) : (cacheLookup w Cache.empty n).2 = worldLocate w n :=
  (C08_cache_lookup w Cache.empty (empty_inv w) n).1

/-- run a history; each lookup records (what the cache answered, what the file system says) -/
def runOps (w : World) (c : Cache) : List Op → List (Option Dir × Option Dir)
  | [] => []
  | .lookup n :: ops => ((cacheLookup w c n).2, worldLocate w n) :: runOps w (cacheLookup w c n).1 ops
  | op :: ops => runOps (stepWorld w op) c ops

theorem cacheLookup_mono (w : World) (c : Cache) (h : CacheInv w c) (hm : Mono w c) (n : Name) : Mono w (cacheLookup w c n).1 := by
  intro d m names hl
  rw [cacheLookup, updateCache_eq_rebuild w c h, refreshDirs_lookup _ _ _ _ h.valid] at hl
  split at hl
  · cases hl; exact Nat.le_refl _
  · exact hm d m names hl

/-- C08 (cache), PARTIAL — the full property also quantifies over histories with `chmod` and with
directory mtimes that are set back, where it fails (`C08_cex_chmod`, known finding).  For EVERY
history of lookups, executables appearing and disappearing, and arbitrary `$PATH` edits, of any
length and from any reachable cache state, EVERY lookup through the cache returns exactly what the
file system says at that moment. -/
theorem C08_cache_partial (ops : List Op) (hops : ∀ op ∈ ops, tame op = true) (w : World) (c : Cache)
    (h : CacheInv w c) (hm : Mono w c) : ∀ r ∈ runOps w c ops, r.1 = r.2 := by
  induction ops generalizing w c with
  | nil => nofun
  | cons op rest ih =>
    simp only [List.forall_mem_cons] at hops
    cases op with
    | lookup n =>
      obtain ⟨a, b⟩ := C08_cache_lookup w c h n
      simp only [runOps, List.forall_mem_cons]
      exact ⟨a, ih hops.2 w _ b (cacheLookup_mono w c h hm n)⟩
    | _ =>
      obtain ⟨a, b⟩ := step_tame w c _ hops.1 h fun d _ => hm d
      show ∀ r ∈ runOps (stepWorld w _) c rest, r.1 = r.2       -- an op that is no lookup only moves the world
      exact ih hops.2 _ c a (b hm)

/-- from session start: every tame history -/
theorem C08_cache_from_start (ops : List Op) (hops : ∀ op ∈ ops, tame op = true) (w : World) :
    ∀ r ∈ runOps w Cache.empty ops, r.1 = r.2 :=
  C08_cache_partial ops hops w Cache.empty (empty_inv w) (fun _ => nofun)

/-- non-vacuity: a tame history with real content whose lookups hit, miss, move and come back -/
example : runOps ⟨[], [(0, [1]), (1, [1, 2])], [0, 1]⟩ Cache.empty
    [.lookup 1, .lookup 2, .delete 0 1, .lookup 1, .setPath [1], .create 0 2, .lookup 2, .setPath [0, 1], .lookup 2] =
    [(some 0, some 0), (some 1, some 1), (some 1, some 1), (some 1, some 1), (some 0, some 0)] := by decide

/-- KNOWN FINDING `cache-ignores-mode-changes-and-mtime-resets` (open): `chmod -x` does not move the
directory's mtime, so the cache keeps serving the file -/
theorem C08_cex_chmod :
    let w0 : World := ⟨[], [(0, [1])], [0]⟩
    let c1 := (cacheLookup w0 Cache.empty 1).1
    let w1 := stepWorld w0 (.chmodOff 0 1)
    (cacheLookup w1 c1 1).2 = some 0 ∧ worldLocate w1 1 = none := by decide

/-- the pinned snapshot's update rule (before fix 157516f) did not notice `$PATH` edits -/
theorem C08_old_rule_cex_path_edit :
    let w0 : World := ⟨[], [(0, [1]), (1, [1])], [0, 1]⟩
    let c1 := updateCacheOld w0 Cache.empty
    let w1 : World := { w0 with path := [1, 0] }
    (updateCacheOld w1 c1).cmds.lookup 1 = some 0 ∧ worldLocate w1 1 = some 1 ∧
    (updateCache w1 c1).cmds.lookup 1 = some 1 := by decide

/-- the hypotheses are satisfiable by a non-trivial file system: entry 5 is a symlink to directory 1 -/
example : FsOk ⟨fun d => if d = 5 then 1 else d, fun d => d < 4 || d == 5, fun d n => (d == 1 || d == 5) && n == 0⟩ := by
  refine ⟨?_, ?_, ?_⟩
  · intro d; by_cases h : d = 5 <;> simp [h]
  · intro d; by_cases h : d = 5 <;> simp [h]
  · intro d n; by_cases h : d = 5 <;> simp [h]
