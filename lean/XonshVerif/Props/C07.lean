/-
C07 — Redirections and pipes deliver each stream to exactly the documented place.

"For every stage of a pipeline, stdout and stderr end up — completely and only — where the redirect operators say:
`>`/`o>`/`1>` to a file (truncated), `>>` appended, `e>`/`2>` for stderr, `a>`/`&>` both, `e>o`/`2>&1` and `o>e`/`1>&2`
merged, `e>p`/`a>p` into the following pipe, `<` a file as stdin; unredirected stdout goes to the next stage, the
capture or the terminal.  All documented spellings of an operator are equivalent, and conflicting or malformed
redirects are reported as errors rather than silently misrouted."

Theorems over the model `Redir` (Model/Redir.lean) instantiated with the tables TRANSLATED from /repo on this run
(Gen/Redir.lean): decoder tables of xonsh/procs/specs.py, the complete language of `_REDIR_REGEX`, the tokenizer's
redirect spellings, the shape of the grammar rule.  The documented routing is `Redir.specRoute` (written from
docs/tutorial.rst); `Redir.route` with `Quirks.fixed` is the code as it is now — the seven deviations of the pinned
snapshot are repaired in /repo (ce03276 55d432e c8fac0d 58fc858 e44af9d 6c98380 0a66bfd) — and with `Quirks.current` it is
the snapshot before the repairs.  HEADLINE: `C07_route`.  The lemmas that do not mention the tables are in Lemmas/Redir*.lean.
-/
import XonshVerif.Model.Redir
import XonshVerif.Lemmas.RedirStage
import XonshVerif.Gen.Redir
open Redir

/-- the decoder tables translated from xonsh/procs/specs.py on this run -/
def T : Tables :=
  ⟨Gen.Redir.regexLang, Gen.Redir.modes, Gen.Redir.writeModes, Gen.Redir.redirAll, Gen.Redir.redirErr, Gen.Redir.redirOut,
   Gen.Redir.e2oMap, Gen.Redir.o2eMap, Gen.Redir.a2pMap, Gen.Redir.e2pMap⟩

/-- `T` with only the rows of the regex table that the decoder can reach from a tokenizable spelling: those of the file
operators (a merge / pipe spelling is found in the maps before the regex is asked), computed from the spelling.  Evaluating
with `Tr` spares the walk through the 2352 rows of `Gen.Redir.regexLang`. -/
def Tr : Tables := { T with regex := Gen.Redir.takesTarget.map fun r => (r, (splitOp r).1, (splitOp r).2, []) }

/-- the keys of the rows `Tr` keeps.  The look at the last character says nothing new (a file operator ends in its `>` or
`<`, which `Tr_rows` confirms): it dismisses the rows with a destination group, 96 % of the table, before they are compared
with the 21 spellings. -/
def reach (k : Str) : Bool :=
  match k.reverse with
  | '>' :: _ | '<' :: _ => Gen.Redir.takesTarget.contains k
  | _ => false

/-- ONE pass over the regex table; a tokenizable spelling whose key is not reachable is decoded from the maps -/
theorem Tr_rows : T.regex.filter (fun row => reach row.1) = Tr.regex ∧
    ∀ r ∈ Gen.Redir.tokenizable, reach (stripFinalNewline r) = true ∨ classify T r = classify Tr r := by
  decide +kernel

theorem classify_Tr : ∀ r ∈ Gen.Redir.tokenizable, classify T r = classify Tr r := fun r h => by
  rcases Tr_rows.2 r h with hr | hc
  · rw [← classify_filter T reach r hr, Tr_rows.1]; rfl
  · exact hc

/-- EVERY spelling that reaches the parser as one redirect token (tokenize._redir_check_single / _redir_check_map and the
lexer's `<` `>` `>>`) is a documented operator, and the tables of procs/specs.py decode it to exactly that operator
(stream, merge direction, pipe form and open mode) -/
theorem C07_spelling_table (r : Str) (h : r ∈ Gen.Redir.tokenizable) :
    ∃ op, specDecode r = some op ∧ classify T r = .ok (clsOf op) := by
  have : ∀ r ∈ Gen.Redir.tokenizable,
      (match specDecode r, classify Tr r with | some op, .ok c => c == clsOf op | _, _ => false) = true := by
    decide +kernel
  have := this r h
  rw [classify_Tr r h]
  split at this
  · rename_i op c h1 h2
    exact ⟨op, h1, by rw [h2]; simp at this; rw [this]⟩
  · simp at this

/-- all spellings of one operator are equivalent -/
theorem C07_spellings_equivalent (r₁ r₂ : Str) (h₁ : r₁ ∈ Gen.Redir.tokenizable) (h₂ : r₂ ∈ Gen.Redir.tokenizable)
    (h : specDecode r₁ = specDecode r₂) : classify T r₁ = classify T r₂ := by
  obtain ⟨o1, d1, c1⟩ := C07_spelling_table r₁ h₁
  obtain ⟨o2, d2, c2⟩ := C07_spelling_table r₂ h₂
  rw [d1, d2] at h
  cases h
  rw [c1, c2]

/-- the spellings docs/tutorial.rst names, by operator -/
def tutorialSpellings : List (Str × Op) :=
  [(">".toList, .outFile false), ("out>".toList, .outFile false), ("o>".toList, .outFile false), ("1>".toList, .outFile false),
   (">>".toList, .outFile true), ("out>>".toList, .outFile true), ("o>>".toList, .outFile true), ("1>>".toList, .outFile true),
   ("err>".toList, .errFile false), ("e>".toList, .errFile false), ("2>".toList, .errFile false),
   ("err>>".toList, .errFile true), ("e>>".toList, .errFile true), ("2>>".toList, .errFile true),
   ("all>".toList, .allFile false), ("a>".toList, .allFile false), ("&>".toList, .allFile false),
   ("all>>".toList, .allFile true), ("a>>".toList, .allFile true), ("&>>".toList, .allFile true),
   ("err>out".toList, .errToOut), ("err>o".toList, .errToOut), ("e>out".toList, .errToOut), ("e>o".toList, .errToOut),
   ("2>&1".toList, .errToOut),
   ("out>err".toList, .outToErr), ("out>e".toList, .outToErr), ("o>err".toList, .outToErr), ("o>e".toList, .outToErr),
   ("1>&2".toList, .outToErr),
   ("a>p".toList, .allToPipe), ("all>p".toList, .allToPipe), ("e>p".toList, .errToPipe), ("err>p".toList, .errToPipe),
   ("<".toList, .input)]

/-- every spelling the tutorial names is lexed as one redirect token and means what the tutorial says -/
theorem C07_tutorial_spellings :
    ∀ p ∈ tutorialSpellings, Gen.Redir.tokenizable.contains p.1 = true ∧ specDecode p.1 = some p.2 := by
  decide +kernel

example : ("2>&1".toList, Op.errToOut) ∈ tutorialSpellings := by decide
example : classify T "err>out".toList = .ok .errToOut ∧ classify T "2>&1".toList = .ok .errToOut := by decide +kernel

def endsAppend (r : Str) : Bool := r.reverse.take 2 == ['>', '>']

def appendCheck (r : Str) : Bool :=
  match specDecode r with
  | some (.outFile a) | some (.errFile a) | some (.allFile a) => a == endsAppend r
  | _ => true

theorem append_check : ∀ r ∈ Gen.Redir.tokenizable, appendCheck r = true := by
  decide +kernel

/-- `>` TRUNCATES AND `>>` APPENDS: whenever the tables decode a tokenizable spelling to a file redirect, the open mode is
`a` if the spelling ends in `>>` and `w` otherwise (`w` truncates, `a` appends: Python's `open`) -/
theorem C07_mode (r : Str) (h : r ∈ Gen.Redir.tokenizable) (m : Str)
    (hc : classify T r = .ok (.outFile m) ∨ classify T r = .ok (.errFile m) ∨ classify T r = .ok (.allFile m)) :
    m = if endsAppend r then ['a'] else ['w'] := by
  obtain ⟨op, hd, hcl⟩ := C07_spelling_table r h
  have ha := append_check r h
  simp only [appendCheck, hd] at ha
  rw [hcl] at hc
  cases op <;> simp [clsOf] at hc <;> simp at ha <;> subst ha <;> subst hc <;> cases endsAppend r <;> rfl

theorem route_Tr (ts : Nat → TState) (q : Quirks) (cfg : Cfg) (cap : Cap) (stages : List Stage)
    (h : ∀ st ∈ stages, ∀ p ∈ st.redirs, p.1 ∈ Gen.Redir.tokenizable) :
    route T ts q cfg cap stages = route Tr ts q cfg cap stages :=
  route_congr ts q cfg cap fun st hst p hp => classify_Tr p.1 (h st hst p hp)

theorem applyRedirs_Tr (ts : Nat → TState) (rs : List (Str × Loc)) (h : ∀ p ∈ rs, p.1 ∈ Gen.Redir.tokenizable) (s) :
    applyRedirs T ts rs s = applyRedirs Tr ts rs s :=
  applyRedirs_congr ts (fun p hp => classify_Tr p.1 (h p hp)) s

local macro "eval_Tr" : tactic =>
  `(tactic| (simp (disch := decide +kernel) only [classify_Tr, applyRedirs_Tr, route_Tr]; decide +kernel))

example : classify T ">".toList = .ok (.outFile ['w']) ∧ classify T "e>>".toList = .ok (.errFile ['a']) := by eval_Tr

/-- the grammar rule `p_subproc_atom_redirect` gives a target word to exactly the file / input operators: the tokens it
accepts alone (IOREDIRECT2) are the merge / pipe operators, and every tokenizable spelling has one of the two shapes -/
def shapeCheck (r : Str) : Bool :=
  match specDecode r with
  | some op =>
    (Gen.Redir.standsAlone.contains r == isMergeOrPipe op) && (Gen.Redir.takesTarget.contains r == !isMergeOrPipe op)
  | none => false

theorem C07_grammar_shape : ∀ r ∈ Gen.Redir.tokenizable, shapeCheck r = true := by
  decide +kernel

/-- no undocumented operator is lexer-reachable: every tokenizable spelling has a documented meaning (so a tokenizer that
starts emitting, say, `2>&3` as one token breaks this theorem and `C07_spelling_table`) -/
theorem C07_unknown_rejected : ∀ r ∈ Gen.Redir.tokenizable, (specDecode r).isSome = true := fun r h => by
  obtain ⟨op, hd, _⟩ := C07_spelling_table r h
  rw [hd]; rfl

/-- the decoder's decision for a word of the language of `_REDIR_REGEX`, from the groups of ITS row of the table
(`classify T w` is this function applied to the row the table lookup finds for `w`) -/
def acceptedRow (row : Str × (Str × Str × Str)) : Bool :=
  match classifyGiven T (some row.2) row.1 with | .ok _ => true | .error _ => false

theorem classify_lookup (w : Str) (g : Str × Str × Str) (h : regexMatch T w = some g) :
    classify T w = classifyGiven T (some g) w := by
  simp [classify, h]

/-- the destination group is `&` + digit (`2>&3`: the decoder drops the descriptor and treats it as `2>` file) -/
def ampFd (row : Str × (Str × Str × Str)) : Bool := match row.2.2.2 with | '&' :: _ => true | _ => false

/-- a merge written with a stray leading `&` (`&2>o`: `_redirect_streams` deletes every `&` before looking it up) -/
def strayAmp (row : Str × (Str × Str × Str)) : Bool := match row.2.1 with | '&' :: _ :: _ => true | _ => false

/-- MALFORMED OPERATORS ARE REJECTED: for every word of the language of `_REDIR_REGEX` (every row of the translated
table) that is not a tokenizable spelling the decoder raises — except the two families `X>&N` and `&N>Y`, which it
accepts when it is called programmatically with such a string.  No member of the two families is tokenizable, and the
`lexer` stream of the check shows the real lexer never emits one as a single token: a remark about the API of
run_subproc, not a routing defect. -/
theorem C07_malformed_rejected :
    ∀ row ∈ Gen.Redir.regexLang, Gen.Redir.tokenizable.contains row.1 = false → ampFd row = false → strayAmp row = false →
      acceptedRow row = false := by
  -- in the order of what a test costs: one look at a group for the two families; the decoder's verdict (most rows are
  -- rejected); only what it accepts is looked up among the spellings
  have h : ∀ row ∈ Gen.Redir.regexLang, ampFd row = true ∨ strayAmp row = true ∨ acceptedRow row = false ∨
      Gen.Redir.tokenizable.contains row.1 = true := by
    decide +kernel
  intro row hr h1 h2 h3
  rcases h row hr with h | h | h | h
  · rw [h2] at h; cases h
  · rw [h3] at h; cases h
  · exact h
  · rw [h1] at h; cases h

/-- … and a string outside the regex language that is not one of the merge / pipe spellings is rejected -/
theorem C07_outside_regex (w : Str) (h : regexMatch T w = none)
    (h1 : w ∉ T.a2p) (h2 : w ∉ T.e2p) (h3 : w.filter (· ≠ '&') ∉ T.e2o) (h4 : w.filter (· ≠ '&') ∉ T.o2e) :
    classify T w = .error .noMatch := by
  simp at h3 h4
  simp [classify, classifyGiven, h1, h2, h3, h4, h]

example : acceptedRow ("2>&3".toList, ("2".toList, ">".toList, "&3".toList)) = true ∧
    acceptedRow ("2>3".toList, ("2".toList, ">".toList, "3".toList)) = false := by decide +kernel
example : classify T "o>p".toList = .error .noMatch := by decide +kernel

/-- a redirect as the grammar produces it: a tokenizable spelling; a lone IOREDIRECT2 carries no target word -/
def FromSource (p : Str × Loc) : Prop :=
  p.1 ∈ Gen.Redir.tokenizable ∧ (p.1 ∈ Gen.Redir.standsAlone → ∀ t, p.2 ≠ .one t)

theorem good_of_source {p : Str × Loc} (h : FromSource p) : Good T p := by
  obtain ⟨h1, h2⟩ := h
  obtain ⟨op, hd, hc⟩ := C07_spelling_table p.1 h1
  refine ⟨op, hd, hc, ?_⟩
  intro hm
  apply h2
  have := C07_grammar_shape p.1 h1
  simp only [shapeCheck, hd, hm] at this
  simp at this
  exact this.1

/-- CONFLICTING REDIRECTS ARE ERRORS, for EVERY list of redirects of one command: `SubprocSpec.resolve_redirects`
succeeds iff every redirect is well formed (documented operator, the target it needs, the target can be opened) and
neither stdin, stdout nor stderr is claimed by two of them; otherwise it raises -/
theorem C07_conflict_is_error (ts : Nat → TState) (rs : List (Str × Loc)) (hs : ∀ p ∈ rs, FromSource p) :
    (∃ s, applyRedirs T ts rs (none, none, none) = .ok s) ↔
      (∀ p ∈ rs, (wellFormed ts p.1 p.2).isSome = true) ∧
      ((wfs ts rs).filterMap claimIn).length ≤ 1 ∧ ((wfs ts rs).filterMap claimOut).length ≤ 1 ∧
      ((wfs ts rs).filterMap claimErr).length ≤ 1 :=
  applyRedirs_ok_iff fun p hp => good_of_source (hs p hp)

def ts0 : Nat → TState := fun _ => .present

example : applyRedirs T ts0 [(">".toList, .one 0), ("e>".toList, .one 1)] (none, none, none) =
    .ok (none, some (.file 0 ['w']), some (.file 1 ['w'])) := by eval_Tr
example : applyRedirs T ts0 [(">".toList, .one 0), ("a>>".toList, .one 1)] (none, none, none) = .error .multiStdout := by
  eval_Tr
example : applyRedirs T ts0 [("e>o".toList, .none), ("2>".toList, .one 1)] (none, none, none) = .error .multiStderr := by
  eval_Tr

/-- THE ROUTING THEOREM.  For EVERY pipeline — any number of stages of any kind (external command, threadable or not;
callable alias, threadable or not), any list of redirects per stage written with any tokenizable spelling, any capture
form, any setting of $THREAD_SUBPROCS / $XONSH_CAPTURE_ALWAYS / $XONSH_SUBPROC_CAPTURED_PRINT_STDERR, any state of
the target files — the model with the seven deviations repaired satisfies the documented routing: it raises exactly
when the documentation says error, and otherwise every stage's stdin source, stdout places, stderr places and opened
files (with mode) are the documented ones.  (Proof: decoding by the table theorem; slots by induction on the redirect
list; the three passes of cmds_to_specs refined to a stage-by-stage function; one stage by case analysis; the pipeline
by induction on the stage list.) -/
theorem C07_route (ts : Nat → TState) (cfg : Cfg) (cap : Cap) (stages : List Stage)
    (hs : ∀ st ∈ stages, ∀ p ∈ st.redirs, FromSource p) :
    agrees (route T ts Quirks.fixed cfg cap stages) (specRoute ts cfg cap stages) = true :=
  route_ok coreOk_fixed (fun st hst p hp => good_of_source (hs st hst p hp)) (fun _ _ _ => trivial)

/-- a stage outside the seven deviation regions (`isLast`: it is the last stage of the pipeline) -/
def OutsideStage (cfg : Cfg) (cap : Cap) (isLast : Bool) (st : Stage) : Prop :=
  (∀ p ∈ st.redirs, specDecode p.1 ≠ some .outToErr) ∧          -- no `o>e`
  unthreadedAlias cfg st.kind = false ∧                           -- not an unthreaded callable alias
  (isLast = true → cap = .uncaptured → isAlias st.kind = false) ∧ -- `$[…]` does not end in a callable alias
  (isLast = true → cap = .object → procThreadable cfg st.kind = true)   -- `!(…)` ends in a threadable command

/-- THE ROUTING THEOREM FOR THE PINNED SNAPSHOT (partial): the model with all seven deviations present satisfies the documented
routing for every pipeline all of whose stages are outside the deviation regions (and so does the model with any subset
of them: `coreOk_outside`).  The unrestricted statement is false: one counterexample per deviation below. -/
theorem C07_route_partial (ts : Nat → TState) (cfg : Cfg) (cap : Cap) (stages : List Stage)
    (hs : ∀ st ∈ stages, ∀ p ∈ st.redirs, FromSource p)
    (ho : ∀ k st, stages[k]? = some st → OutsideStage cfg cap (k + 1 == stages.length) st) :
    agrees (route T ts Quirks.current cfg cap stages) (specRoute ts cfg cap stages) = true :=
  route_ok (coreOk_outside _) (fun st hst p hp => good_of_source (hs st hst p hp)) fun k st hk => by
    obtain ⟨h1, h2, h3, h4⟩ := ho k st hk
    exact ⟨no_other h1, h2, h3, h4⟩

def dflt : Cfg := ⟨true, false, false⟩
def xp : Kind := .proc true
def ta : Kind := .alias true
def ua : Kind := .alias false

/-- `xp e>o < in | ta > out e>> errs` under `$()` (the example of the tutorial) -/
example :
    route T ts0 Quirks.current dflt .stdout
      [⟨xp, [("e>o".toList, .none), ("<".toList, .one 0)]⟩, ⟨ta, [(">".toList, .one 1), ("e>>".toList, .one 2)]⟩] =
    ⟨none, false,
      [⟨.file 0, [.stdinOf 1], [.stdinOf 1], []⟩,
       ⟨.pipe, [.file 1 ['w']], [.file 2 ['a']], [(1, ['w']), (2, ['a'])]⟩]⟩ := by eval_Tr

example :
    specRoute ts0 dflt .stdout
      [⟨xp, [("e>o".toList, .none), ("<".toList, .one 0)]⟩, ⟨ta, [(">".toList, .one 1), ("e>>".toList, .one 2)]⟩] =
    .ok [⟨.file 0, [.stdinOf 1], [.stdinOf 1], []⟩,
         ⟨.pipe, [.file 1 ['w']], [.file 2 ['a']], [(1, ['w']), (2, ['a'])]⟩] := by decide +kernel

/-- `xp o> f e>p | xp` : stdout to the file, only stderr into the pipe -/
example :
    route T ts0 Quirks.current dflt .hidden [⟨xp, [("o>".toList, .one 0), ("e>p".toList, .none)]⟩, ⟨xp, []⟩] =
    ⟨none, false, [⟨.inherit, [.file 0 ['w']], [.stdinOf 1], [(0, ['w'])]⟩, ⟨.pipe, [.termOut], [.termErr], []⟩]⟩ := by
  eval_Tr

/-- `xp > f | xp` is an error, and so is `xp e>p` without a pipe -/
example : (route T ts0 Quirks.current dflt .hidden [⟨xp, [(">".toList, .one 0)]⟩, ⟨xp, []⟩]).err = some .multiStdout ∧
    specRoute ts0 dflt .hidden [⟨xp, [(">".toList, .one 0)]⟩, ⟨xp, []⟩] = .error := by eval_Tr
example : (route T ts0 Quirks.current dflt .hidden [⟨xp, [("e>p".toList, .none)]⟩]).err = some .needsPipe ∧
    specRoute ts0 dflt .hidden [⟨xp, [("e>p".toList, .none)]⟩] = .error := by eval_Tr

/-- the partial theorem is not vacuous: a pipeline outside the deviation regions -/
example : ∀ k st, [Stage.mk xp [("e>o".toList, .none)], Stage.mk ta [(">>".toList, .one 0)]][k]? = some st →
    OutsideStage dflt .hidden (k + 1 == 2) st := by
  intro k st h
  match k, h with
  | 0, h => cases h; exact ⟨by decide +kernel, by decide, by decide, by decide⟩
  | 1, h => cases h; exact ⟨by decide +kernel, by decide, by decide, by decide⟩

/-! ## the seven deviations of the PINNED SNAPSHOT: what it did on each witness (`Quirks.current`), against the documentation.
All seven are repaired in /repo; the check replays each witness on the real code as a FIXED witness (it must now be routed
as documented, i.e. as `Quirks.fixed` says: last example of this section) -/

def only (k : Nat) : Quirks :=
  ⟨k == 0, k == 1, k == 2, k == 3, k == 4, k == 5, k == 6⟩

/-- `$[alias]`: the alias's stderr lands on the shell's stdout (ProcProxyThread.run: `errwrite == c2pwrite`, both -1) -/
theorem C07_cex_alias_uncaptured_stderr :
    route T ts0 Quirks.current dflt .uncaptured [⟨ta, []⟩] = ⟨none, false, [⟨.inherit, [.termOut], [.termOut], []⟩]⟩ ∧
    specRoute ts0 dflt .uncaptured [⟨ta, []⟩] = .ok [⟨.inherit, [.termOut], [.termErr], []⟩] ∧
    agrees (route T ts0 (only 0) dflt .uncaptured [⟨ta, []⟩]) (specRoute ts0 dflt .uncaptured [⟨ta, []⟩]) = false := by
  eval_Tr

/-- `![unthreaded_alias e>o]`: `e>o` is ignored (ProcProxy._pick_buf: -2 < 3 means "sys.stderr") -/
theorem C07_cex_unthreaded_alias_e2o :
    route T ts0 Quirks.current dflt .hidden [⟨ua, [("e>o".toList, .none)]⟩] =
      ⟨none, false, [⟨.inherit, [.termOut], [.termErr], []⟩]⟩ ∧
    specRoute ts0 dflt .hidden [⟨ua, [("e>o".toList, .none)]⟩] = .ok [⟨.inherit, [.termOut], [.termOut], []⟩] ∧
    agrees (route T ts0 (only 1) dflt .hidden [⟨ua, [("e>o".toList, .none)]⟩])
      (specRoute ts0 dflt .hidden [⟨ua, [("e>o".toList, .none)]⟩]) = false := by
  eval_Tr

/-- `$(cmd o>e)`: cmd's stdout lands on the shell's stdout, not on its stderr (`last._stdout = last.stderr` = None) -/
theorem C07_cex_captured_o2e :
    route T ts0 Quirks.current dflt .stdout [⟨xp, [("o>e".toList, .none)]⟩] =
      ⟨none, false, [⟨.inherit, [.termOut], [.termErr], []⟩]⟩ ∧
    specRoute ts0 dflt .stdout [⟨xp, [("o>e".toList, .none)]⟩] = .ok [⟨.inherit, [.termErr], [.termErr], []⟩] ∧
    agrees (route T ts0 (only 2) dflt .stdout [⟨xp, [("o>e".toList, .none)]⟩])
      (specRoute ts0 dflt .stdout [⟨xp, [("o>e".toList, .none)]⟩]) = false := by
  eval_Tr

/-- `$[alias e>o]` raises AttributeError after the alias ran; `![unthreaded_alias o>e]` raises it before anything runs -/
theorem C07_cex_int_handle :
    route T ts0 Quirks.current dflt .uncaptured [⟨ta, [("e>o".toList, .none)]⟩] =
      ⟨none, true, [⟨.inherit, [.termOut], [.termOut], []⟩]⟩ ∧
    specRoute ts0 dflt .uncaptured [⟨ta, [("e>o".toList, .none)]⟩] = .ok [⟨.inherit, [.termOut], [.termOut], []⟩] ∧
    agrees (route T ts0 (only 3) dflt .uncaptured [⟨ta, [("e>o".toList, .none)]⟩])
      (specRoute ts0 dflt .uncaptured [⟨ta, [("e>o".toList, .none)]⟩]) = false ∧
    route T ts0 Quirks.current dflt .hidden [⟨ua, [("o>e".toList, .none)]⟩] = ⟨some .intNotReadable, false, []⟩ ∧
    specRoute ts0 dflt .hidden [⟨ua, [("o>e".toList, .none)]⟩] = .ok [⟨.inherit, [.termErr], [.termErr], []⟩] := by
  eval_Tr

/-- `!(unthreaded_alias)`: the alias's stderr is nowhere (iterraw's non-threadable path never reads captured_stderr);
the same for an external command with $THREAD_SUBPROCS off -/
theorem C07_cex_object_stderr_lost :
    route T ts0 Quirks.current dflt .object [⟨ua, []⟩] = ⟨none, false, [⟨.inherit, [.capOut], [], []⟩]⟩ ∧
    specRoute ts0 dflt .object [⟨ua, []⟩] = .ok [⟨.inherit, [.capOut], [.capErr], []⟩] ∧
    agrees (route T ts0 (only 4) dflt .object [⟨ua, []⟩]) (specRoute ts0 dflt .object [⟨ua, []⟩]) = false ∧
    route T ts0 Quirks.current ⟨false, false, false⟩ .object [⟨xp, []⟩] = ⟨none, false, [⟨.inherit, [.capOut], [], []⟩]⟩ := by
  eval_Tr

/-- `![cmd o>e e> f]`: cmd's stdout goes to the shell's stderr, not into f (the flag 2 is passed on as descriptor 2) -/
theorem C07_cex_o2e_literal_fd :
    route T ts0 Quirks.current dflt .hidden [⟨xp, [("o>e".toList, .none), ("e>".toList, .one 0)]⟩] =
      ⟨none, false, [⟨.inherit, [.termErr], [.file 0 ['w']], [(0, ['w'])]⟩]⟩ ∧
    specRoute ts0 dflt .hidden [⟨xp, [("o>e".toList, .none), ("e>".toList, .one 0)]⟩] =
      .ok [⟨.inherit, [.file 0 ['w']], [.file 0 ['w']], [(0, ['w'])]⟩] ∧
    agrees (route T ts0 (only 5) dflt .hidden [⟨xp, [("o>e".toList, .none), ("e>".toList, .one 0)]⟩])
      (specRoute ts0 dflt .hidden [⟨xp, [("o>e".toList, .none), ("e>".toList, .one 0)]⟩]) = false := by
  eval_Tr

/-- `![unthreaded_alias < f]`: the alias cannot read its stdin (a text file wrapped in TextIOWrapper) and delivers nothing -/
theorem C07_cex_unthreaded_alias_stdin :
    route T ts0 Quirks.current dflt .hidden [⟨ua, [("<".toList, .one 0)]⟩] = ⟨none, false, [⟨.broken, [], [], []⟩]⟩ ∧
    specRoute ts0 dflt .hidden [⟨ua, [("<".toList, .one 0)]⟩] = .ok [⟨.file 0, [.termOut], [.termErr], []⟩] ∧
    agrees (route T ts0 (only 6) dflt .hidden [⟨ua, [("<".toList, .one 0)]⟩])
      (specRoute ts0 dflt .hidden [⟨ua, [("<".toList, .one 0)]⟩]) = false := by
  eval_Tr

/-- with all seven repaired each of the seven witnesses is routed as documented (instances of `C07_route`) -/
example :
    agrees (route T ts0 Quirks.fixed dflt .uncaptured [⟨ta, []⟩]) (specRoute ts0 dflt .uncaptured [⟨ta, []⟩]) = true ∧
    agrees (route T ts0 Quirks.fixed dflt .object [⟨ua, []⟩]) (specRoute ts0 dflt .object [⟨ua, []⟩]) = true ∧
    agrees (route T ts0 Quirks.fixed dflt .hidden [⟨xp, [("o>e".toList, .none), ("e>".toList, .one 0)]⟩])
      (specRoute ts0 dflt .hidden [⟨xp, [("o>e".toList, .none), ("e>".toList, .one 0)]⟩]) = true := by
  eval_Tr
