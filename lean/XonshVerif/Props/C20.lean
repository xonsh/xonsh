/-
C20 — The job table is always consistent with the processes it tracks.
Theorems over the hand-written model `Jobs` (tied to xonsh/procs/jobs.py by the correspondence
stream of xv/props/c20.py).  All statements quantify over every table / every op sequence.
-/
import XonshVerif.Model.Jobs
import XonshVerif.Lemmas.ListFacts
import XonshVerif.Gen.JobsReg
open Jobs

theorem nextFrom_spec (keys : List Nat) (i : Nat) :
    nextFrom keys i ∉ keys ∧ i ≤ nextFrom keys i ∧ ∀ j, i ≤ j → j < nextFrom keys i → j ∈ keys := by
  fun_induction nextFrom keys i with
  | case1 i h ih =>
    refine ⟨ih.1, by omega, ?_⟩
    intro j h1 h2
    by_cases e : j = i
    · subst e; exact h
    · exact ih.2.2 j (by omega) h2
  | case2 i h => exact ⟨h, by omega, by intro j h1 h2; omega⟩

theorem nextNum_spec (t : Table) :
    nextNum t ∉ t.keys ∧ 1 ≤ nextNum t ∧ ∀ j, 1 ≤ j → j < nextNum t → j ∈ t.keys :=
  nextFrom_spec t.keys 1

/-- `add_job` hands out the lowest free number ≥ 1 among the live jobs -/
theorem C20_lowest_free (t : Table) (b r : Bool) :
    let live := clearDead t
    let num := (addJob t b r).2
    num ∉ live.keys ∧ 1 ≤ num ∧ ∀ j, 1 ≤ j → j < num → j ∈ live.keys :=
  nextNum_spec (clearDead t)

/-! `TInv` speaks of the deque and of the registered numbers only, and an operation either leaves both
alone, drops the same numbers from both (the purge, `disown`), moves a member of the deque to its
front, or registers a fresh number. -/

theorem tinv_iff (t : Table) : TInv t ↔ t.tasks.Perm t.keys ∧ t.keys.Nodup ∧ ∀ n ∈ t.keys, 1 ≤ n :=
  ⟨fun h => ⟨(List.perm_ext_iff_of_nodup h.1 h.2.1).mpr h.2.2.1, h.2.1, h.2.2.2⟩,
   fun ⟨hp, hn, h1⟩ => ⟨hp.nodup_iff.mpr hn, hn, fun _ => hp.mem_iff, h1⟩⟩

theorem Jobs.TInv.tasks_nodup {t : Table} (h : TInv t) : t.tasks.Nodup := h.1
theorem Jobs.TInv.keys_nodup {t : Table} (h : TInv t) : t.keys.Nodup := h.2.1
theorem Jobs.TInv.mem_iff {t : Table} (h : TInv t) {n : Nat} : n ∈ t.tasks ↔ n ∈ t.keys := h.2.2.1 n

theorem Jobs.TInv.congr {t t' : Table} (h : TInv t) (ht : t'.tasks = t.tasks) (hk : t'.keys = t.keys) :
    TInv t' := by
  unfold TInv
  rw [ht, hk]
  exact h

theorem Jobs.TInv.filter {t t' : Table} (h : TInv t) (q : Nat → Bool) (ht : t'.tasks = t.tasks.filter q)
    (hk : t'.keys = t.keys.filter q) : TInv t' := by
  obtain ⟨hp, hn, h1⟩ := (tinv_iff t).mp h
  rw [tinv_iff, ht, hk]
  exact ⟨hp.filter q, hn.filter q, fun n hm => h1 n (List.mem_filter.mp hm).1⟩

theorem Jobs.TInv.toFront {t t' : Table} (h : TInv t) (tid : Nat) (hm : tid ∈ t.tasks)
    (ht : t'.tasks = toFront t.tasks tid) (hk : t'.keys = t.keys) : TInv t' := by
  obtain ⟨hp, hn, h1⟩ := (tinv_iff t).mp h
  rw [tinv_iff, ht, hk]
  exact ⟨(List.perm_cons_erase hm).symm.trans hp, hn, h1⟩

theorem Jobs.TInv.add {t t' : Table} (h : TInv t) (n : Nat) (hn : n ∉ t.keys) (h1n : 1 ≤ n)
    (ht : t'.tasks = n :: t.tasks) (hk : t'.keys = t.keys ++ [n]) : TInv t' := by
  obtain ⟨hp, hnd, h1⟩ := (tinv_iff t).mp h
  have hkn : (t.keys ++ [n]).Perm (n :: t.keys) := List.perm_append_singleton n t.keys
  rw [tinv_iff, ht, hk]
  refine ⟨(hp.cons n).trans hkn.symm, hkn.nodup_iff.mpr (List.nodup_cons.mpr ⟨hn, hnd⟩), fun m hm => ?_⟩
  rcases List.mem_cons.mp (hkn.mem_iff.mp hm) with rfl | hm
  · exact h1n
  · exact h1 m hm

theorem keys_filter (jobs : List (Nat × Job)) (q : Nat → Bool) :
    (jobs.filter (fun p => q p.1)).map (·.1) = (jobs.map (·.1)).filter q :=
  List.filter_map.symm

theorem setJob_keys (jobs : List (Nat × Job)) (n : Nat) (f : Job → Job) :
    (setJob jobs n f).map (·.1) = jobs.map (·.1) := by
  unfold setJob
  rw [List.map_map]
  refine List.map_congr_left fun p _ => ?_
  simp only [Function.comp]
  split <;> rfl

/-- `die` and `stop` are not written with `setJob`; their bodies are the same `map` up to unfolding -/
theorem die_keys (t : Table) (n : Nat) : (die t n).keys = t.keys :=
  setJob_keys t.jobs n fun j => { j with alive := false }

theorem stop_keys (t : Table) (n : Nat) : (stop t n).keys = t.keys :=
  setJob_keys t.jobs n fun j => { j with running := false }

theorem lookup_none_of_not_mem (jobs : List (Nat × Job)) (n : Nat) (h : n ∉ jobs.map (·.1)) :
    jobs.lookup n = none := List.lookup_eq_none_of_not_mem_keys h

theorem lookup_some_mem (jobs : List (Nat × Job)) (n : Nat) (j : Job) (h : jobs.lookup n = some j) :
    (n, j) ∈ jobs := List.mem_of_lookup_eq_some h

theorem isDead_of_mem (t : Table) (hn : t.keys.Nodup) (p : Nat × Job) (hp : p ∈ t.jobs) :
    isDead t p.1 = !p.2.alive := by
  rw [isDead, Table.get?, (List.lookup_eq_some_iff_mem hn).mpr hp]

theorem clearDead_jobs (t : Table) (h : TInv t) :
    (clearDead t).jobs = t.jobs.filter (fun p => !isDead t p.1) := by
  refine List.filter_congr fun p hp => ?_
  have : t.tasks.contains p.1 = true :=
    List.contains_iff_mem.mpr (h.mem_iff.mpr (List.mem_map_of_mem hp))
  rw [this, Bool.true_and]

theorem clearDead_inv (t : Table) (h : TInv t) : TInv (clearDead t) :=
  h.filter (fun n => !isDead t n) rfl <| by
    rw [Table.keys, clearDead_jobs t h]
    exact keys_filter t.jobs fun n => !isDead t n

theorem addJob_inv (t : Table) (b r : Bool) (h : TInv t) : TInv (addJob t b r).1 :=
  have hs := nextNum_spec (clearDead t)
  (clearDead_inv t h).add _ hs.1 hs.2.1 rfl List.map_append

/-- what `select` can answer; an error code is one that is not `.ok _` (`Out` is also the result type of `resume`) -/
def SelRes (t : Table) : Except Out Nat → Prop
  | .ok tid => tid ∈ t.tasks ∨ tid ∈ t.keys
  | .error e => ∀ tid, e ≠ .ok tid

theorem select_res (t : Table) (a : Arg) : SelRes t (select t a) := by
  fun_cases select t a with
  | case1 tid _ ht => exact .inl (ht ▸ List.mem_cons_self ..)                               -- no argument: the head
  | case3 tid _ ht _ => exact .inl (ht ▸ List.mem_cons_self ..)                             -- `+`: the head
  | case6 _ tid _ ht _ => exact .inl (ht ▸ List.mem_cons_of_mem _ (List.mem_cons_self ..))  -- `-`: the second entry
  | case9 n hc => exact .inr (List.contains_iff_mem.mp hc.2)                                -- a number that was tested
  | _ => exact nofun                                                                        -- literal error codes

theorem select_mem (t : Table) (a : Arg) (tid : Nat) (h : TInv t) (hs : select t a = .ok tid) :
    tid ∈ t.tasks := by
  have := select_res t a
  rw [hs] at this
  exact this.elim id h.mem_iff.mpr

theorem select_error_ne_ok (t : Table) (a : Arg) (e : Out) (hs : select t a = .error e) (tid : Nat) :
    e ≠ .ok tid := by
  have := select_res t a
  rw [hs] at this
  exact this tid

theorem resume_form (t : Table) (a : Arg) (b : Bool) :
    (∃ e, (∀ tid, e ≠ .ok tid) ∧ resume t a b = (clearDead t, e)) ∨
    ∃ tid, select (clearDead t) a = .ok tid ∧ resume t a b =
      ({ tasks := toFront (clearDead t).tasks tid
         jobs := setJob (clearDead t).jobs tid (fun j => { j with bg := b, running := true }) }, .ok tid) := by
  fun_cases resume t a b with
  | case1 => exact .inl ⟨.noJobs, nofun, rfl⟩
  | case2 _ _ e hs => exact .inl ⟨e, select_error_ne_ok _ a e hs, rfl⟩
  | case3 _ _ tid hs => exact .inr ⟨tid, hs, rfl⟩

theorem resume_inv (t : Table) (a : Arg) (b : Bool) (h : TInv t) : TInv (resume t a b).1 := by
  have hc := clearDead_inv t h
  rcases resume_form t a b with ⟨e, _, hr⟩ | ⟨tid, hs, hr⟩ <;> rw [hr]
  · exact hc
  · exact hc.toFront tid (select_mem _ a tid hc hs) rfl
      (setJob_keys (clearDead t).jobs tid fun j => { j with bg := b, running := true })

theorem disownLoop_inv (t : Table) (ids : List Int) (h : TInv t) : TInv (disownLoop t ids).1 := by
  fun_induction disownLoop t ids with
  | case1 => exact h
  | case2 t i rest _ ih =>
    have ht : t.tasks.erase i.toNat = t.tasks.filter (fun m => decide (m ≠ i.toNat)) :=
      (h.tasks_nodup.erase_eq_filter _).trans (List.filter_congr fun _ _ => (decide_not ..).symm)
    exact ih (h.filter _ ht (keys_filter t.jobs fun m => decide (m ≠ i.toNat)))
  | case3 => exact h

theorem disown_inv (t : Table) (ids : List Int) (h : TInv t) : TInv (disown t ids).1 := by
  fun_cases disown t ids with
  | case1 => exact h
  | case2 => exact disownLoop_inv t _ h

theorem nextTask_inv (t : Table) (h : TInv t) : TInv (nextTask t).1 := by
  have hc := clearDead_inv t h
  fun_cases nextTask t with
  | case1 => exact hc
  | case2 _ tid hf => exact hc.toFront tid (List.mem_of_find?_eq_some hf) rfl rfl

theorem stepTable_inv (t : Table) (op : Op) (h : TInv t) : TInv (stepTable t op).1 := by
  cases op with
  | add b r => exact addJob_inv t b r h
  | die n => exact h.congr rfl (die_keys t n)
  | stop n => exact h.congr rfl (stop_keys t n)
  | fg a => exact resume_inv t a false h
  | bg a => exact resume_inv t a true h
  | disown ids => exact disown_inv t ids h
  | jobs | clean => exact clearDead_inv t h
  | nextTask => exact nextTask_inv t h

def AllInv (s : State) : Prop := TInv s.main ∧ ∀ w ∈ s.workers, TInv w

theorem step_inv (s : State) (owner : Nat) (op : Op) (h : AllInv s) : AllInv (step s owner op).1 := by
  unfold step
  split
  · exact ⟨stepTable_inv _ _ h.1, h.2⟩
  · split
    · exact h
    · rename_i w hw
      refine ⟨h.1, ?_⟩
      intro w' hw'
      rcases List.mem_or_eq_of_mem_set hw' with hm | he
      · exact h.2 w' hm
      · subst he
        exact stepTable_inv _ _ (h.2 w (List.mem_of_getElem? hw))

/-- C20 (main theorem): after ANY sequence of job starts, exits, stops and job-control commands,
issued from the main thread or from alias threads, in every table the MRU order is duplicate-free,
job numbers are unique and ≥ 1, and the MRU order holds exactly the registered jobs. -/
theorem C20_inv (s : State) (ops : List (Nat × Op)) (h : AllInv s) : AllInv (run s ops) := by
  fun_induction run s ops with
  | case1 => exact h
  | case2 s o op rest ih => exact ih (step_inv s o op h)

theorem empty_inv : TInv Jobs.empty := by
  refine ⟨List.nodup_nil, ?_, ?_, ?_⟩ <;> simp [Jobs.empty, Table.keys]

/-- from a fresh session (no jobs anywhere) -/
theorem C20_inv_from_start (nworkers : Nat) (ops : List (Nat × Op)) :
    AllInv (run ⟨Jobs.empty, List.replicate nworkers Jobs.empty⟩ ops) := by
  apply C20_inv
  exact ⟨empty_inv, fun w hw => by rw [List.eq_of_mem_replicate hw]; exact empty_inv⟩

/-- the MRU order is a permutation of exactly the registered job numbers -/
theorem C20_mru_is_perm (t : Table) (h : TInv t) : t.tasks.Perm t.keys :=
  ((tinv_iff t).mp h).1

/-- every job appears exactly once, in both structures -/
theorem C20_once (t : Table) (h : TInv t) (n : Nat) (hn : n ∈ t.keys) :
    t.tasks.count n = 1 ∧ t.keys.count n = 1 :=
  ⟨by rw [h.tasks_nodup.count]; simp [h.mem_iff.mpr hn], by rw [h.keys_nodup.count]; simp [hn]⟩

/-- after any purging operation no dead job is left in either structure -/
theorem C20_dead_gone (t : Table) (h : TInv t) :
    (∀ p ∈ (clearDead t).jobs, p.2.alive = true) ∧
    (∀ n ∈ (clearDead t).tasks, ∃ j, (clearDead t).get? n = some j ∧ j.alive = true) := by
  have hc := clearDead_inv t h
  have alive : ∀ p ∈ (clearDead t).jobs, p.2.alive = true := by
    intro p hp
    rw [clearDead_jobs t h, List.mem_filter, isDead_of_mem t h.keys_nodup p hp.1] at hp
    simpa using hp.2
  refine ⟨alive, fun n hn => ?_⟩
  obtain ⟨⟨_, j⟩, hj, rfl⟩ := List.mem_map.mp (hc.mem_iff.mp hn)
  exact ⟨j, (List.lookup_eq_some_iff_mem hc.keys_nodup).mpr hj, alive _ hj⟩

/-- a purge never removes a live job -/
theorem C20_live_kept (t : Table) (h : TInv t) (n : Nat) (j : Job) (hj : (n, j) ∈ t.jobs)
    (ha : j.alive = true) : (n, j) ∈ (clearDead t).jobs ∧ n ∈ (clearDead t).tasks := by
  have hd : (!isDead t n) = true := by rw [isDead_of_mem t h.keys_nodup _ hj, ha]; rfl
  constructor
  · rw [clearDead_jobs t h]; exact List.mem_filter.mpr ⟨hj, hd⟩
  · exact List.mem_filter.mpr ⟨h.mem_iff.mpr (List.mem_map_of_mem hj), hd⟩

/-- no argument / `+` select the most recently used job, `-` the second, a number that job -/
theorem C20_select (t : Table) (x y : Nat) (rest : List Nat) (h : TInv t) (ht : t.tasks = x :: y :: rest) :
    select t .none = .ok x ∧ select t .plus = .ok x ∧ select t .minus = .ok y ∧
    (∀ n : Nat, n ∈ t.keys → select t (.num n) = .ok n) ∧
    (∀ n : Int, (n < 0 ∨ n.toNat ∉ t.keys) → select t (.num n) = .error .invalid) ∧
    select t .bad = .error .invalid ∧ select t .many = .error .arity := by
  have hx : x ∈ t.keys := h.mem_iff.mp (by simp [ht])
  have hy : y ∈ t.keys := h.mem_iff.mp (by simp [ht])
  refine ⟨by simp [select, ht], by simp [select, ht, hx], by simp [select, ht, hy], ?_, ?_, rfl, rfl⟩
  · intro n hn; simp [select, hn]
  · intro n hn
    simp only [select]
    refine if_neg fun ⟨h0, hc⟩ => ?_
    rcases hn with hn | hn
    · omega
    · exact hn (List.contains_iff_mem.mp hc)

/-- with a single job, `-` is an error (IndexError branch) -/
theorem C20_select_minus_single (t : Table) (x : Nat) (ht : t.tasks = [x]) :
    select t .minus = .error .invalid := by
  simp [select, ht]

/-- a successful fg/bg moves the selected job to the front and keeps the relative order of the rest -/
theorem C20_mru (t : Table) (a : Arg) (b : Bool) (tid : Nat) (h : (resume t a b).2 = .ok tid) :
    (resume t a b).1.tasks = tid :: (clearDead t).tasks.erase tid ∧
    ((clearDead t).tasks.erase tid).Sublist (clearDead t).tasks := by
  rcases resume_form t a b with ⟨e, he, hr⟩ | ⟨tid', _, hr⟩ <;> rw [hr] at h ⊢
  · exact absurd h (he tid)
  · cases h; exact ⟨rfl, List.erase_sublist⟩

/-- an error return of fg/bg leaves the live part of the table exactly as the purge left it -/
theorem C20_error_unchanged (t : Table) (a : Arg) (b : Bool) (h : ∀ tid, (resume t a b).2 ≠ .ok tid) :
    (resume t a b).1 = clearDead t := by
  rcases resume_form t a b with ⟨e, _, hr⟩ | ⟨tid, _, hr⟩
  · rw [hr]
  · exact absurd (by rw [hr]) (h tid)

theorem disown_single (t : Table) (i : Int) (hne : t.tasks ≠ []) :
    disown t [i] = if i ≥ 0 ∧ t.keys.contains i.toNat then
      ({ tasks := t.tasks.erase i.toNat, jobs := t.jobs.filter (fun p => p.1 ≠ i.toNat) }, .none)
      else (t, .invalid) := by
  fun_cases disown t [i] with
  | case1 ht => exact absurd ht hne
  | case2 => simp only [List.isEmpty_cons, Bool.false_eq_true, if_false, disownLoop]

/-- `disown` with at most one id: an error leaves the table untouched -/
theorem C20_disown_error_unchanged (t : Table) (i : Int) (h : (disown t [i]).2 = .invalid) :
    (disown t [i]).1 = t := by
  by_cases hne : t.tasks = []
  · unfold disown; rw [hne]
  · rw [disown_single t i hne] at h ⊢
    split at h
    · cases h
    · rename_i hc; rw [if_neg hc]

/-- a successful `disown n` removes exactly job `n` from both structures -/
theorem C20_disown_removes (t : Table) (n : Nat) (h : TInv t) (hn : n ∈ t.keys) :
    let t' := (disown t [(n : Int)]).1
    n ∉ t'.tasks ∧ n ∉ t'.keys ∧ ∀ m, m ≠ n → (m ∈ t'.tasks ↔ m ∈ t.tasks) := by
  have hne : t.tasks ≠ [] := List.ne_nil_of_mem (h.mem_iff.mpr hn)
  have hc : (n : Int) ≥ 0 ∧ t.keys.contains (n : Int).toNat = true :=
    ⟨Int.natCast_nonneg n, List.contains_iff_mem.mpr hn⟩
  simp only [disown_single t n hne, if_pos hc]
  exact ⟨fun hm => (h.tasks_nodup.mem_erase_iff.mp hm).1 rfl, by simp [Table.keys], fun _ hm => List.mem_erase_of_ne hm⟩

/-! ## non-vacuity -/

example : TInv ⟨[(1, ⟨false, true, true⟩), (3, ⟨true, false, true⟩), (2, ⟨true, true, false⟩)], [3, 1, 2]⟩ :=
  (tinv_iff _).mpr ⟨by decide, by decide, by decide⟩

example : (clearDead ⟨[(1, ⟨false, true, true⟩), (3, ⟨true, false, true⟩), (2, ⟨true, true, false⟩)], [3, 1, 2]⟩).tasks
    = [3, 1] := by decide

/-! ## registration of every pipeline that contains a real process (guard translated from /repo) -/

/-- `_run_command_pipeline` registers a pipeline iff it has a process object and at least one of its
stages is a real (non-proxy) process: mixed alias/process pipelines ARE registered, alias-only ones
are not — for every pipeline length and every mix of stage kinds. -/
theorem C20_registers (procIsSome : Bool) (isProxy : List Bool) :
    Gen.JobsReg.registers procIsSome isProxy = (procIsSome && isProxy.any (fun p => !p)) := by
  rw [Gen.JobsReg.registers, List.not_all_eq_any_not]

example : Gen.JobsReg.registers true [true, false] = true := by decide
example : Gen.JobsReg.registers true [true, true] = false := by decide
