/-
C01 — Python superset: every valid Python program parses to CPython's syntax tree.   PARTIAL.

NO THEOREM HERE STATES THE MAIN CLAUSE.  "Every text CPython's PEG parser accepts is accepted by xonsh's PLY LALR(1) automaton with
the same tree" relates two parsers that are not modelled (≈1300 lines of generated table, ≈600 imperative grammar actions, a regex
tokenizer, a stateful lexer); that clause is SEARCHED by xv/props/c01.py (differential against `ast.parse`), not proved.

What is proved, over tables REGENERATED FROM /repo AND THE RUNNING INTERPRETER on every run (Gen/PyTokens.lean):
  * tokens   : every CPython operator / delimiter spelling comes out of xonsh's tokenizer + lexer as ONE token of a type the
               grammar knows, different spellings get different types; every hard keyword becomes its own token type (never a
               name); every soft keyword becomes a token the grammar production `name` accepts;
  * targets  : `context_check._not_assignable` (its isinstance chain read from the source) against CPython's target rule, for
               targets of ANY nesting, by structural induction: whatever CPython allows, xonsh allows — except empty `()` / `[]`
               targets (counterexample); and xonsh allows nothing else, except what its chain does not list and misplaced stars.
-/
import XonshVerif.Model.CtxCheck
import XonshVerif.Gen.PyTokens
import XonshVerif.Lemmas.ListFacts
open CtxCheck TokMap

namespace C01

/-- `_not_assignable` as /repo has it now -/
def cfg : Cfg :=
  ⟨Gen.PyTokens.notAssignableRows, Gen.PyTokens.augSeqMsg, Gen.PyTokens.emptySeqMsg, Gen.PyTokens.recursionPassesAug⟩

/-- tokenizer + lexer tables as /repo has them now -/
def lex : Lex :=
  ⟨Gen.PyTokens.funnyAlts, Gen.PyTokens.specialOps, Gen.PyTokens.tokenMapOps, Gen.PyTokens.errorTokenMap⟩

abbrev ops := Gen.PyTokens.cpythonOps
abbrev kws := Gen.PyTokens.kwlist
abbrev nameTok' := nameTokAt Gen.PyTokens.kwlist Gen.PyTokens.kwExtra Gen.PyTokens.needWhitespace

end C01
open C01

/-- one statement, because `xonshTok` runs the whole operator pattern on a spelling and the evaluation of the list of types is
then shared -/
theorem ops_tokens :
    (ops.map (xonshTok lex)).Nodup ∧ ∀ o ∈ ops.map (xonshTok lex), ∃ t ∈ o, t ∈ Gen.PyTokens.plyTokens := by decide +kernel

/-- every operator / delimiter spelling of the running CPython (`token.EXACT_TOKEN_TYPES`) is taken by xonsh's tokenizer as ONE
token and mapped by the lexer to a PLY token type … -/
theorem C01_ops_total : ∀ op ∈ ops, (xonshTok lex op).isSome = true := fun _ h =>
  let ⟨_, e, _⟩ := ops_tokens.2 _ (List.mem_map_of_mem h)
  Option.isSome_of_mem e

/-- … that is one of the token types the grammar is built over … -/
theorem C01_ops_known : ∀ op ∈ ops, ∀ t, xonshTok lex op = some t → t ∈ Gen.PyTokens.plyTokens := fun _ h _ e =>
  let ⟨_, e', ht⟩ := ops_tokens.2 _ (List.mem_map_of_mem h)
  Option.some.inj (e'.symm.trans e) ▸ ht

/-- … and two different spellings never share a type (`>=` is not `>`, `**=` is not `*=`, …) -/
theorem C01_ops_injective : ∀ a ∈ ops, ∀ b ∈ ops, xonshTok lex a = xonshTok lex b → a = b :=
  List.inj_of_nodup_map ops_tokens.1

example : xonshTok lex [62, 61] = some [71, 69] := by decide                      -- ">=" ↦ GE
example : xonshTok lex [42, 42, 61] = some [80, 79, 87, 69, 81, 85, 65, 76] := by decide   -- "**=" ↦ POWEQUAL
example : xonshTok lex [60, 62] = none := by decide                               -- "<>" is two tokens, not an operator
example : ops.length > 40 := by decide

theorem nameTokAt_kw {kwlist kwExtra needWs : List TStr} {hasWs : Bool} {k : TStr} (hk : k ∈ kwlist)
    (h : needWs.contains k = false ∨ hasWs = true) : nameTokAt kwlist kwExtra needWs hasWs k = toUpper k := by
  have hw : (needWs.contains k && !hasWs) = false := by
    rcases h with h | h <;> simp only [h, Bool.false_and, Bool.not_true, Bool.and_false]
  have hkw : (kwlist ++ kwExtra).contains k = true := List.contains_iff_mem.2 (List.mem_append_left _ hk)
  simp only [nameTokAt, nameTok, hw, hkw, Bool.false_eq_true, if_false, if_true]

theorem kw_types : ∀ k ∈ kws, toUpper k ∈ Gen.PyTokens.plyTokens ∧ toUpper k ∉ Gen.PyTokens.nameAlts := by decide +kernel

/-- every hard keyword of the running CPython becomes its own token type — a type the grammar knows, not NAME, not a type the
production `name` accepts — provided it is followed by a blank where the lexer insists on one (see `C01_kw_glued_cex`) -/
theorem C01_kw_total :
    ∀ k ∈ kws, ∀ hasWs, (Gen.PyTokens.needWhitespace.contains k = false ∨ hasWs = true) →
      nameTok' hasWs k = toUpper k ∧ toUpper k ∈ Gen.PyTokens.plyTokens ∧ toUpper k ∉ Gen.PyTokens.nameAlts :=
  fun k hk _ h => ⟨nameTokAt_kw hk h, kw_types k hk⟩

/-- different keywords, different token types -/
theorem C01_kw_injective : ∀ a ∈ kws, ∀ b ∈ kws, toUpper a = toUpper b → a = b := List.inj_of_nodup_map (by decide +kernel)

/-- soft keywords stay usable as names: each comes out as NAME or as a token type the grammar production `name` accepts -/
theorem C01_softkw_names : ∀ k ∈ Gen.PyTokens.softkwlist, ∀ hasWs, nameTok' hasWs k ∈ Gen.PyTokens.nameAlts := by decide +kernel

/-- an ordinary identifier is a NAME -/
example : nameTok' true [120, 121] = sNAME := by decide
example : nameTok' true [105, 102] = [73, 70] := by decide        -- "if" ↦ IF
example : kws.length ≥ 35 := by decide

/-- COUNTEREXAMPLE to the unrestricted keyword clause: a NEED_WHITESPACE word (`and`, `or`) that is directly followed by a
non-blank — `x and(y)`, `a or-1`, all valid Python — is a keyword of CPython but comes out of `handle_name` as a NAME.
(Stated over the translated NEED_WHITESPACE table: it is vacuous once that table is empty.) -/
theorem C01_kw_glued_cex : ∀ w ∈ Gen.PyTokens.needWhitespace, w ∈ kws ∧ nameTok' false w = sNAME := by decide +kernel

theorem seqCase_none {c : Cfg} {isE aug : Bool} {loop : Option CtxCheck.Str} :
    seqCase c isE aug loop = none ↔ aug = false ∧ loop = none ∧ (isE = false ∨ c.emptySeqMsg = none) := by
  cases aug with
  | true => simp [seqCase]
  | false => cases isE <;> cases h : c.emptySeqMsg <;> simp [seqCase, h]

theorem firstBad_cons {c : Cfg} {e : Tgt} {rest : List Tgt} {aug : Bool} :
    firstBad c (e :: rest) aug = none ↔ notAssignable c e aug = none ∧ firstBad c rest aug = none := by
  cases h : notAssignable c e aug <;> simp [firstBad, h]

theorem cpyValid_seq (m : Mode) (es : List Tgt) :
    (cpyValid m (.tuple es) = true ↔ (m == .aug) = false ∧ oneStar es = true ∧ cpyValidElts m es = true) ∧
    (cpyValid m (.list es) = true ↔ (m == .aug) = false ∧ oneStar es = true ∧ cpyValidElts m es = true) := by
  cases m <;> simp [cpyValid]

theorem cpyValidElts_star {m : Mode} {t : Tgt} {rest : List Tgt} :
    cpyValidElts m (.starred t :: rest) = true ↔ m = .assign ∧ cpyValid .assign t = true ∧ cpyValidElts .assign rest = true := by
  cases m with
  | assign => cases t <;> simp [cpyValidElts, cpyValid]
  | _ => simp [cpyValidElts, cpyValid]

theorem beq_aug : (Mode.aug == Mode.aug) = true := by decide

abbrev RowsOk (c : Cfg) : Prop := ∀ tag ∈ [sName, sAttribute, sSubscript, sStarred], chain c.rows [tag] = none

theorem rows_simple : RowsOk cfg := by decide +kernel

theorem leaf_ok {c : Cfg} (hc : RowsOk c) (tags : List CtxCheck.Str) (h : simpleTarget tags = true) :
    chain c.rows tags = none := by
  simp only [simpleTarget, Bool.or_eq_true, beq_iff_eq] at h
  rcases h with (rfl | rfl) | rfl <;> exact hc _ (by simp)

/-! Both inductions below are over every mode `m`, with the flag `m == .aug` the visitor passes for it: an augmented target is no
special case, only the sequence branch in which CPython's rule and `seqCase` both say no. -/

mutual
theorem accept_tgt {c : Cfg} (hc : RowsOk c) : ∀ (t : Tgt) (m : Mode), cpyValid m t = true →
    (noEmptySeq t = true ∨ c.emptySeqMsg = none) → notAssignable c t (m == .aug) = none
  | .leaf tags, _, h, _ => by
    simp only [notAssignable]
    exact leaf_ok hc tags (by simpa only [cpyValid] using h)
  | .starred t, _, h, _ => by simp [cpyValid] at h
  | .tuple es, m, h, hn | .list es, m, h, hn => by
    simp only [(cpyValid_seq m es).1, (cpyValid_seq m es).2] at h
    simp only [noEmptySeq, Bool.and_eq_true, Bool.not_eq_true'] at hn
    obtain ⟨hn1, hn2⟩ := and_or_right.1 hn
    have he := accept_elts hc es m h.2.2 hn2
    -- the mode is not `.aug` (`h.1`): the elements are checked with `false`, whatever `recAug`
    simp only [notAssignable, h.1, Bool.and_false] at he ⊢
    exact seqCase_none.2 ⟨rfl, he, hn1⟩
theorem accept_elts {c : Cfg} (hc : RowsOk c) : ∀ (es : List Tgt) (m : Mode), cpyValidElts m es = true →
    (noEmptySeqL es = true ∨ c.emptySeqMsg = none) → firstBad c es (m == .aug) = none
  | [], _, _, _ => by simp only [firstBad]
  | e :: rest, m, h, hn => by
    simp only [noEmptySeqL, Bool.and_eq_true] at hn
    obtain ⟨hn1, hn2⟩ := and_or_right.1 hn
    cases e with
    | starred t =>
      -- xonsh lets a starred element through without looking at it
      have hx : notAssignable c (.starred t) (m == .aug) = none := by simp only [notAssignable]; exact hc _ (by simp)
      obtain ⟨rfl, -, hr⟩ := cpyValidElts_star.1 h
      exact firstBad_cons.2 ⟨hx, accept_elts hc rest .assign hr hn2⟩
    | _ =>
      simp only [cpyValidElts, Bool.and_eq_true] at h
      exact firstBad_cons.2 ⟨accept_tgt hc _ m h.1 hn1, accept_elts hc rest m h.2 hn2⟩
end

theorem acceptL : ∀ (es : List Tgt) (m : Mode), m ≠ .aug → cpyValidElts m es = true → (noEmptySeqL es = true ∨ cfg.emptySeqMsg = none) →
    firstBad cfg es false = none :=
  fun es m hm h hn => beq_false_of_ne hm ▸ accept_elts rows_simple es m h hn

theorem accepts {c : Cfg} (hc : RowsOk c) (m : Mode) (t : Tgt) (h : cpyValid m t = true)
    (hn : noEmptySeq t = true ∨ c.emptySeqMsg = none) : xonshAccepts c m t = true :=
  Option.isNone_iff_eq_none.2 (accept_tgt hc t m h hn)

/-- C01 (targets, the direction the property needs), PARTIAL: every assignment / augmented-assignment / `del` target CPython's
grammar allows — Name, Attribute, Subscript, starred elements, Tuples and Lists of ANY nesting — passes xonsh's `check_contexts`,
PROVIDED it contains no empty `()` / `[]`.  -/
theorem C01_targets_partial (m : Mode) (t : Tgt) (h : cpyValid m t = true) (hn : noEmptySeq t = true) :
    xonshAccepts cfg m t = true :=
  accepts rows_simple m t h (.inl hn)

/-- the same WITHOUT the proviso for a `_not_assignable` that has no emptiness test (the repaired variant): then the statement is
C01's target clause at full strength.  With /repo's current source the hypothesis is false, see `C01_targets_cex`. -/
theorem C01_targets (hfixed : cfg.emptySeqMsg = none) (m : Mode) (t : Tgt) (h : cpyValid m t = true) :
    xonshAccepts cfg m t = true :=
  accepts rows_simple m t h (.inr hfixed)

/-- C01's target clause AT FULL STRENGTH, UNCONDITIONALLY, for /repo's current source (the emptiness test was removed in /repo
commit 7cb36ca, finding `empty-sequence-target`): every assignment / augmented-assignment / `del` target CPython allows — empty
`()` / `[]` included, any nesting — passes xonsh's `check_contexts`.  The hypothesis of `C01_targets` is discharged from the
translated table; should the test come back, this theorem stops checking and the check reports it. -/
theorem C01_targets_full (m : Mode) (t : Tgt) (h : cpyValid m t = true) : xonshAccepts cfg m t = true :=
  C01_targets (by decide) m t h

example : xonshAccepts cfg .assign (.tuple []) = true ∧ xonshAccepts cfg .assign (.list []) = true ∧ xonshAccepts cfg .del (.tuple []) = true
    ∧ xonshAccepts cfg .assign (.tuple [.leaf [sName], .tuple []]) = true := by decide +kernel

/-- COUNTEREXAMPLE (the defect of known finding `empty-sequence-target`, repaired in /repo 7cb36ca — with the current source the
hypothesis is false and this is vacuous; it documents what the test did): while `_not_assignable` has its emptiness test,
`() = x`, `[] = x`, `del ()`, `del []` — all valid Python — are refused with that message, at any depth (`a, () = x`). -/
theorem C01_targets_cex (msg : CtxCheck.Str) (h : cfg.emptySeqMsg = some msg) :
    (cpyValid .assign (.tuple []) = true ∧ notAssignable cfg (.tuple []) false = some msg) ∧
    (cpyValid .assign (.list []) = true ∧ notAssignable cfg (.list []) false = some msg) ∧
    (cpyValid .del (.tuple []) = true ∧ notAssignable cfg (.tuple []) false = some msg) ∧
    (cpyValid .assign (.tuple [.leaf [sName], .tuple []]) = true ∧
      notAssignable cfg (.tuple [.leaf [sName], .tuple []]) false = some msg) := by
  have ht : notAssignable cfg (.tuple []) false = some msg := by simp [notAssignable, seqCase, h]
  have hl : notAssignable cfg (.list []) false = some msg := by simp [notAssignable, seqCase, h]
  have hn : notAssignable cfg (.leaf [sName]) false = none := by simp only [notAssignable]; exact rows_simple _ (by simp)
  refine ⟨⟨by decide, ht⟩, ⟨by decide, hl⟩, ⟨by decide, ht⟩, by decide, ?_⟩
  rw [notAssignable]
  simp [firstBad, hn, ht, seqCase]

-- non-vacuity: deep, starred, mixed targets satisfy the hypotheses; the conclusion is not trivially true (a literal is refused)
example : cpyValid .assign (.tuple [.leaf [sName], .starred (.list [.leaf [sAttribute], .leaf [sSubscript]]), .list [.tuple [.leaf [sName]]]]) = true
    ∧ noEmptySeq (.tuple [.leaf [sName], .starred (.list [.leaf [sAttribute], .leaf [sSubscript]]), .list [.tuple [.leaf [sName]]]]) = true := by decide
example : xonshAccepts cfg .assign (.tuple [.leaf [sName], .leaf [[67, 97, 108, 108]]]) = false := by decide +kernel   -- `a, f() = x`
example : xonshAccepts cfg .aug (.tuple [.leaf [sName]]) = false := by decide +kernel                             -- `(a,) += x`
example : cpyValid .del (.list [.leaf [sName], .tuple []]) = true := by decide                                    -- `del [a, ()]`
example : cpyValid .assign (.tuple []) = true := by decide

mutual
/-- side condition of the converse: every leaf is either a proper simple target or is caught by the chain, stars stand only
directly inside a sequence of an ordinary assignment, and what is under a star (which xonsh never inspects) is itself a target
CPython would allow there -/
def tame (c : Cfg) : Mode → Tgt → Bool
  | _, .leaf tags => simpleTarget tags || (chain c.rows tags).isSome
  | _, .starred _ => false
  | m, .tuple es => oneStar es && tameL c m es
  | m, .list es => oneStar es && tameL c m es
def tameL (c : Cfg) : Mode → List Tgt → Bool
  | _, [] => true
  | .assign, .starred (.starred _) :: _ => false
  | .assign, .starred t :: rest => cpyValid .assign t && tameL c .assign rest
  | m, e :: rest => tame c m e && tameL c m rest
end

theorem tameL_star {c : Cfg} {m : Mode} {t : Tgt} {rest : List Tgt} :
    tameL c m (.starred t :: rest) = true ↔ m = .assign ∧ cpyValid .assign t = true ∧ tameL c .assign rest = true := by
  cases m with
  | assign => cases t <;> simp [tameL, cpyValid]
  | _ => simp [tameL, tame]

theorem leaf_simple {c : Cfg} {m : Mode} {tags : List CtxCheck.Str} (ht : tame c m (.leaf tags) = true)
    (hx : chain c.rows tags = none) : simpleTarget tags = true := by
  simpa [tame, hx] using ht

mutual
theorem reject_tgt {c : Cfg} : ∀ (t : Tgt) (m : Mode), tame c m t = true → notAssignable c t (m == .aug) = none →
    cpyValid m t = true
  | .leaf tags, m, ht, hx => by
    simp only [notAssignable] at hx
    simpa only [cpyValid] using leaf_simple ht hx
  | .starred t, _, ht, _ => by simp [tame] at ht
  | .tuple es, m, ht, hx | .list es, m, ht, hx => by
    simp only [tame, Bool.and_eq_true] at ht
    -- xonsh refuses every sequence as an augmented target: the mode is another one, and the elements were checked with `false`
    obtain ⟨hm, hx, -⟩ := seqCase_none.1 (by simpa only [notAssignable] using hx)
    have he := reject_elts es m ht.2
    simp only [hm, Bool.and_false] at hx he
    simp only [(cpyValid_seq m es).1, (cpyValid_seq m es).2]
    exact ⟨hm, ht.1, he hx⟩
theorem reject_elts {c : Cfg} : ∀ (es : List Tgt) (m : Mode), tameL c m es = true → firstBad c es (m == .aug) = none →
    cpyValidElts m es = true
  | [], _, _, _ => by simp only [cpyValidElts]
  | e :: rest, m, ht, hx => by
    obtain ⟨hx1, hx2⟩ := firstBad_cons.1 hx
    cases e with
    | starred t =>
      obtain ⟨rfl, ht1, ht2⟩ := tameL_star.1 ht
      exact cpyValidElts_star.2 ⟨rfl, ht1, reject_elts rest .assign ht2 hx2⟩
    | _ =>
      simp only [tameL, Bool.and_eq_true] at ht
      simp only [cpyValidElts, Bool.and_eq_true]
      exact ⟨reject_tgt _ m ht.1 hx1, reject_elts rest m ht.2 hx2⟩
end

theorem rejectL : ∀ (es : List Tgt) (m : Mode), m ≠ .aug → tameL cfg m es = true → firstBad cfg es false = none → cpyValidElts m es = true :=
  fun es m hm ht hx => reject_elts es m ht (beq_false_of_ne hm ▸ hx)

theorem rejects {c : Cfg} (m : Mode) (t : Tgt) (ht : tame c m t = true) (hx : xonshAccepts c m t = true) :
    cpyValid m t = true :=
  reject_tgt t m ht (Option.isNone_iff_eq_none.1 hx)

/-- C01 (targets, both directions), PARTIAL: for targets of any nesting without empty sequences, whose leaves are either proper
targets or listed in the chain, and whose stars are where stars may be, xonsh's check and CPython's rule agree exactly. -/
theorem C01_targets_iff_partial (m : Mode) (t : Tgt) (hn : noEmptySeq t = true) (ht : tame cfg m t = true) :
    xonshAccepts cfg m t = true ↔ cpyValid m t = true :=
  ⟨rejects m t ht, fun h => C01_targets_partial m t h hn⟩

/-- why the converse needs `tame` (NOT defects of C01, which only asks for a superset): a bare `*a = x` and an expression class
the chain does not list (here an f-string) pass `_not_assignable`; CPython refuses both. -/
theorem C01_targets_converse_cex :
    (xonshAccepts cfg .assign (.starred (.leaf [sName])) = true ∧ cpyValid .assign (.starred (.leaf [sName])) = false) ∧
    (xonshAccepts cfg .assign (.leaf [[74, 111, 105, 110, 101, 100, 83, 116, 114]]) = true ∧
      cpyValid .assign (.leaf [[74, 111, 105, 110, 101, 100, 83, 116, 114]]) = false) := by decide +kernel
