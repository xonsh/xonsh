/-
C11 — Scoped environment changes are exactly undone and never leak across threads.
Theorems over the hand-written model `EnvL` (tied to xonsh.environ.Env by xv/props/c11.py).

The two loops of `swap` write nothing but `locals[t]` and the cache (`LocalOnly`): isolation for the
other threads and the frame conditions for the thread itself both come from that.
-/
import XonshVerif.Model.EnvLayers
import XonshVerif.Lemmas.ListFacts
open EnvL

theorem getD_set_self {α : Type} {l : List α} {t : Nat} {x d : α} (h : t < l.length) :
    (l.set t x).getD t d = x := by
  simp [List.getD, h]
theorem getD_set_ne {α : Type} {l : List α} {t t' : Nat} {x d : α} (h : t' ≠ t) :
    (l.set t x).getD t' d = l.getD t' d := by
  simp [List.getD, List.getElem?_set_ne (Ne.symm h)]

@[simp] theorem setLoc_global (s : St) (t : Nat) (m : Map) : (s.setLoc t m).global = s.global := rfl
@[simp] theorem setLoc_defaults (s : St) (t : Nat) (m : Map) : (s.setLoc t m).defaults = s.defaults := rfl
@[simp] theorem setLoc_overlays (s : St) (t : Nat) (m : Map) : (s.setLoc t m).overlays = s.overlays := rfl
@[simp] theorem setLoc_frames (s : St) (t : Nat) (m : Map) : (s.setLoc t m).frames = s.frames := rfl

/-- thread `t` has its slot in each per-thread list (`List.set` drops a write to a missing slot) -/
structure Valid (s : St) (t : Nat) : Prop where
  l : t < s.locals.length
  o : t < s.overlays.length
  f : t < s.frames.length

/-- two states in which thread `t` reads the same: same overlay stack, same `_d` lookups, same defaults -/
def SameReads (s s' : St) (t : Nat) : Prop :=
  s'.ovs t = s.ovs t ∧ (∀ k, dLookup s' t k = dLookup s t k) ∧ s'.defaults = s.defaults

theorem sameReads_refl (s : St) (t : Nat) : SameReads s s t := ⟨rfl, fun _ => rfl, rfl⟩
theorem sameReads_trans {s s' s'' : St} {t : Nat} (h1 : SameReads s s' t) (h2 : SameReads s' s'' t) :
    SameReads s s'' t :=
  ⟨h2.1.trans h1.1, fun k => (h2.2.1 k).trans (h1.2.1 k), h2.2.2.trans h1.2.2⟩

theorem vGet_eq (s : St) (t : Nat) (k : Key) :
    vGet s t k = match detypeCells s t k with
      | some (.val v) => some v
      | some .mask => none
      | none => s.defaults.lookup k := by
  unfold vGet detypeCells; rcases ovLookup (s.ovs t) k with _ | _ | _ <;> rfl

theorem vContains_eq (s : St) (t : Nat) (k : Key) :
    vContains s t k = match detypeCells s t k with
      | some c => c != .mask
      | none => (s.defaults.lookup k).isSome := by
  unfold vContains detypeCells; cases ovLookup (s.ovs t) k <;> rfl

/-- EVERY read path of thread `t` — `[]`, `in`, iteration, and what `detype()` computes for a key —
is determined by those three ingredients -/
theorem views_sameReads {s s' : St} {t : Nat} (h : SameReads s s' t) (k : Key) :
    vGet s' t k = vGet s t k ∧ vContains s' t k = vContains s t k ∧ vIter s' t k = vIter s t k ∧
    detypeCells s' t k = detypeCells s t k := by
  have hc : detypeCells s' t k = detypeCells s t k := by simp only [detypeCells, h.1, h.2.1 k]
  exact ⟨by simp only [vGet_eq, hc, h.2.2], by simp only [vContains_eq, hc, h.2.2],
    by simp only [vIter, h.1, h.2.1 k, h.2.2], hc⟩

/-- `[]` and `in` always agree -/
theorem C11_get_contains_agree (s : St) (t : Nat) (k : Key) : vContains s t k = (vGet s t k).isSome := by
  rw [vGet_eq, vContains_eq]
  rcases detypeCells s t k with _ | _ | _ <;> rfl

theorem any_of_ovLookup {os : List Map} {k : Key} {c : Cell} (h : ovLookup os k = some c) :
    os.any (fun o => o.lookup k == some c) = true := by
  fun_induction ovLookup os k with
  | case1 => cases h
  | case2 o rest k c' hl =>
    cases h
    simp [hl]
  | case3 o rest k hl ih => rw [List.any_cons, ih h, Bool.or_true]

theorem mem_detypeFresh (s : St) (t : Nat) (k : Key) (v : Val) (h : (k, v) ∈ detypeFresh s t) :
    detypeCells s t k = some (.val v) := by
  simp only [detypeFresh, List.mem_filterMap] at h
  obtain ⟨k', _, hk'⟩ := h
  split at hk'
  · rename_i v' hc; cases hk'; exact hc
  · cases hk'

/-- MASK: when the top-most explicit layer of `k` holds DELETE_VAR the key is absent from every read
path at once: `[]` raises, `in` is false, iteration skips it, children do not receive it -/
theorem C11_mask_all_paths (s : St) (t : Nat) (k : Key) (h : detypeCells s t k = some .mask) :
    vGet s t k = none ∧ vContains s t k = false ∧ vIter s t k = false ∧ ∀ v, (k, v) ∉ detypeFresh s t := by
  refine ⟨by rw [vGet_eq, h], by rw [vContains_eq, h]; rfl, ?_, fun v hm => ?_⟩
  · unfold detypeCells at h
    unfold vIter
    cases ho : ovLookup (s.ovs t) k with
    | some c =>
      rw [ho] at h; cases h
      simp [any_of_ovLookup ho]
    | none => rw [ho] at h; simp [show dLookup s t k = some .mask from h]
  · have := mem_detypeFresh s t k v hm
    rw [h] at this; cases this

structure LocalOnly (t : Nat) (s s' : St) : Prop where
  global : s'.global = s.global
  overlays : s'.overlays = s.overlays
  frames : s'.frames = s.frames
  defaults : s'.defaults = s.defaults
  len : s'.locals.length = s.locals.length
  other : ∀ t', t' ≠ t → s'.loc t' = s.loc t'

theorem LocalOnly.refl (t : Nat) (s : St) : LocalOnly t s s := ⟨rfl, rfl, rfl, rfl, rfl, fun _ _ => rfl⟩

theorem LocalOnly.trans {t : Nat} {s s' s'' : St} (h : LocalOnly t s s') (h' : LocalOnly t s' s'') :
    LocalOnly t s s'' :=
  ⟨h'.global.trans h.global, h'.overlays.trans h.overlays, h'.frames.trans h.frames,
   h'.defaults.trans h.defaults, h'.len.trans h.len, fun u hu => (h'.other u hu).trans (h.other u hu)⟩

theorem LocalOnly.valid {t : Nat} {s s' : St} (h : LocalOnly t s s') (hv : Valid s t) : Valid s' t :=
  ⟨h.len ▸ hv.l, h.overlays ▸ hv.o, h.frames ▸ hv.f⟩

theorem LocalOnly.ovs {t : Nat} {s s' : St} (h : LocalOnly t s s') (u : Nat) : s'.ovs u = s.ovs u := by
  rw [St.ovs, h.overlays]; rfl

theorem LocalOnly.sameReads {t t' : Nat} {s s' : St} (h : LocalOnly t s s') (ht : t' ≠ t) :
    SameReads s s' t' :=
  ⟨h.ovs t', fun k => by simp only [dLookup, h.other t' ht, h.global], h.defaults⟩

theorem setLoc_localOnly (s : St) (t : Nat) (m : Map) (d : Option (List (Key × Val))) :
    LocalOnly t s { s.setLoc t m with detyped := d } :=
  ⟨rfl, rfl, rfl, rfl, List.length_set, fun _ h => getD_set_ne h⟩

theorem setLocal_localOnly (s : St) (t : Nat) (k : Key) (c : Cell) : LocalOnly t s (setLocal s t k c) :=
  setLoc_localOnly s t _ none

theorem delLocal_localOnly (s : St) (t : Nat) (k : Key) : LocalOnly t s (delLocal s t k).1 := by
  fun_cases delLocal s t k with
  | case1 => exact setLoc_localOnly s t _ none
  | case2 => exact .refl t s
  | case3 => exact .refl t s

theorem enterLoop_localOnly (s : St) (t : Nat) (kvs : List (Key × Cell)) (old : Saved) :
    LocalOnly t s (enterLoop s t kvs old).1 := by
  induction kvs generalizing s old with
  | nil => exact .refl t s
  | cons p rest ih => exact (setLocal_localOnly s t p.1 p.2).trans (ih _ _)

theorem restoreLoop_localOnly (s : St) (t : Nat) (old : Saved) : LocalOnly t s (restoreLoop s t old).1 := by
  fun_induction restoreLoop s t old with
  | case1 s => exact .refl t s
  | case2 s k rest ih => exact (delLocal_localOnly s t k).trans ih
  | case3 s k c rest ih => exact (setLocal_localOnly s t k c).trans ih

/-- ISOLATION: a thread entering a scope never changes what another thread reads -/
theorem C11_isolated_enter (s : St) (t t' : Nat) (kvs : List (Key × Cell)) (o : Option Map) (h : t' ≠ t) :
    SameReads s (swapEnter s t kvs o) t' := by
  obtain ⟨ho, hd, hdef⟩ := (enterLoop_localOnly s t kvs []).sameReads h
  unfold swapEnter
  cases o with
  | none => exact ⟨ho, hd, hdef⟩
  | some ov => exact ⟨(getD_set_ne h).trans ho, hd, hdef⟩

/-- … nor does a thread leaving one -/
theorem C11_isolated_exit (s : St) (t t' : Nat) (h : t' ≠ t) : SameReads s (swapExit s t).1 t' := by
  unfold swapExit
  split
  · exact sameReads_refl s t'
  · rename_i f outer _
    refine sameReads_trans ?_ ((restoreLoop_localOnly _ t f.old).sameReads h)
    cases f.pushed
    · exact ⟨rfl, fun _ => rfl, rfl⟩
    · exact ⟨getD_set_ne h, fun _ => rfl, rfl⟩

/-- ISOLATION (any schedule): whatever thread `t` does with scopes — enter, exit, nested, masks,
overlays — every read path of every other thread `t'` (`[]`, `in`, iteration, and what a fresh
`detype()` computes) is unchanged at every intermediate point. -/
theorem C11_isolated (s : St) (t t' : Nat) (op : Op) (h : t' ≠ t)
    (hop : (∃ kvs o, op = .enter kvs o) ∨ op = .exit) : SameReads s (step s t op).1 t' := by
  rcases hop with ⟨kvs, o, rfl⟩ | rfl
  · exact C11_isolated_enter s t t' kvs o h
  · have := C11_isolated_exit s t t' h
    simp only [step]
    -- `step` only translates the result code
    generalize swapExit s t = r at this ⊢
    obtain ⟨s', _ | _⟩ := r <;> exact this

theorem lookup_mset (m : Map) (k k' : Key) (c : Cell) :
    (mset m k c).lookup k' = if k' = k then some c else m.lookup k' := List.lookup_cons_filter_ne m k k' c

theorem lookup_mdel (m : Map) (k k' : Key) :
    (mdel m k).lookup k' = if k' = k then none else m.lookup k' := List.lookup_filter_ne m k k'

theorem dLookup_eq_none {s : St} {t : Nat} {k : Key} :
    dLookup s t k = none ↔ (s.loc t).lookup k = none ∧ s.global.lookup k = none := by
  unfold dLookup
  cases (s.loc t).lookup k with
  | none => exact ⟨fun h => ⟨rfl, h⟩, fun h => h.2⟩
  | some c => exact ⟨nofun, fun h => nomatch h.1⟩

theorem setLocal_loc (s : St) (t : Nat) (k k' : Key) (c : Cell) (hv : Valid s t) :
    ((setLocal s t k c).loc t).lookup k' = if k' = k then some c else (s.loc t).lookup k' :=
  (congrArg (·.lookup k') (getD_set_self hv.l)).trans (lookup_mset _ k k' c)

theorem delLocal_loc (s : St) (t : Nat) (k k' : Key) (hv : Valid s t) :
    ((delLocal s t k).1.loc t).lookup k' = if k' = k then none else (s.loc t).lookup k' := by
  have absent (hd : ¬ (dLookup s t k).isSome = true) :
      (s.loc t).lookup k' = if k' = k then none else (s.loc t).lookup k' := by
    split
    · subst k'
      exact (dLookup_eq_none.mp (Option.not_isSome_iff_eq_none.mp hd)).1
    · rfl
  fun_cases delLocal s t k with
  | case1 => exact (congrArg (·.lookup k') (getD_set_self hv.l)).trans (lookup_mdel _ k k')
  | case2 hd => exact absent hd
  | case3 hd => exact absent hd

theorem getD_lookup_cons (rest : Saved) (k0 k : Key) (sv d : Option Cell) (h : k0 ∉ rest.map (·.1)) :
    (rest.lookup k).getD (if k = k0 then sv else d) = (((k0, sv) :: rest).lookup k).getD d := by
  rw [List.lookup_cons_ite]
  split
  · subst k
    rw [List.lookup_eq_none_of_not_mem_keys h]
    rfl
  · rfl

theorem restoreLoop_loc (s : St) (t : Nat) (old : Saved) (k : Key) (hv : Valid s t)
    (hn : (old.map (·.1)).Nodup) :
    ((restoreLoop s t old).1.loc t).lookup k = (old.lookup k).getD ((s.loc t).lookup k) := by
  fun_induction restoreLoop s t old with
  | case1 => rfl
  | case2 s k0 rest ih =>
    rw [List.map_cons, List.nodup_cons] at hn
    rw [ih ((delLocal_localOnly s t k0).valid hv) hn.2, delLocal_loc s t k0 k hv]
    exact getD_lookup_cons rest k0 k none _ hn.1
  | case3 s k0 c rest ih =>
    rw [List.map_cons, List.nodup_cons] at hn
    rw [ih ((setLocal_localOnly s t k0 c).valid hv) hn.2, setLocal_loc s t k0 k c hv]
    exact getD_lookup_cons rest k0 k (some c) _ hn.1

/-- LEAVING A SCOPE, whatever the body did (nested scopes, assignments, deletions, in any thread):
the overlay pushed by the scope is gone; every swapped key that was explicitly set when the scope was
entered reads exactly the captured cell again (value or mask); every swapped key that was not set has no
thread-local override left; every OTHER variable keeps what the body assigned (assignments persist). -/
theorem C11_exit_restores (s : St) (t : Nat) (f : Frame) (outer : List Frame) (hv : Valid s t)
    (hf : s.frs t = f :: outer) (hn : (f.old.map (·.1)).Nodup) :
    (swapExit s t).1.ovs t = (if f.pushed then (s.ovs t).tail else s.ovs t) ∧
    (swapExit s t).1.defaults = s.defaults ∧ (swapExit s t).1.global = s.global ∧
    ∀ k, dLookup (swapExit s t).1 t k =
      match f.old.lookup k with
      | some (some c) => some c
      | some none => s.global.lookup k
      | none => dLookup s t k := by
  unfold swapExit
  simp only [hf]
  -- `s2`: the frame and (if one was pushed) the overlay popped
  generalize hs2 : (if f.pushed = true then _ else _ : St) = s2
  obtain ⟨hg, hd, hl, hv2, ho⟩ : s2.global = s.global ∧ s2.defaults = s.defaults ∧ s2.loc t = s.loc t ∧ Valid s2 t ∧
      s2.ovs t = if f.pushed then (s.ovs t).tail else s.ovs t := by
    subst hs2
    cases f.pushed
    · exact ⟨rfl, rfl, rfl, ⟨hv.l, hv.o, by simp [hv.f]⟩, rfl⟩
    · exact ⟨rfl, rfl, rfl, ⟨hv.l, by simp [hv.o], by simp [hv.f]⟩, getD_set_self hv.o⟩
  have hr := restoreLoop_localOnly s2 t f.old
  refine ⟨?_, hr.defaults.trans hd, hr.global.trans hg, fun k => ?_⟩
  · exact (hr.ovs t).trans ho
  · simp only [dLookup, restoreLoop_loc s2 t f.old k hv2 hn, hr.global, hg, hl]
    rcases f.old.lookup k with _ | _ | _ <;> rfl

/-- what leaving the scope in `s3` would put back from `old` (the last clause of `C11_exit_restores`) is, for
every key, the `_d` cell it had in `s` -/
structure Remembers (s s3 : St) (t : Nat) (old : Saved) : Prop where
  nodup : (old.map (·.1)).Nodup
  cells : ∀ k, (match old.lookup k with
    | some (some c) => some c
    | some none => s3.global.lookup k
    | none => dLookup s3 t k) = dLookup s t k

/-- `_capture_for_swap` (as repaired): exactly the explicitly-set state of the key in this thread -/
theorem capture_eq_dLookup (s : St) (t : Nat) (k : Key) : capture s t k = dLookup s t k := rfl

theorem lookup_savedSet (old : Saved) (k k' : Key) (c : Option Cell) :
    (savedSet old k c).lookup k' = if k' = k then some c else old.lookup k' := List.lookup_cons_filter_ne old k k' c

theorem savedSet_nodup {old : Saved} (h : (old.map (·.1)).Nodup) (k : Key) (c : Option Cell) :
    ((savedSet old k c).map (·.1)).Nodup := by
  rw [savedSet, List.map_cons, List.nodup_cons]
  refine ⟨fun hm => ?_, h.sublist (List.filter_sublist.map _)⟩
  obtain ⟨q, hq, e⟩ := List.mem_map.mp hm
  simpa [e] using (List.mem_filter.mp hq).2

theorem enterLoop_remembers (s s1 : St) (t : Nat) (kvs : List (Key × Cell)) (old : Saved)
    (hv : Valid s1 t) (hn : (kvs.map (·.1)).Nodup) (hdis : ∀ k ∈ kvs.map (·.1), old.lookup k = none)
    (hr : Remembers s s1 t old) :
    Remembers s (enterLoop s1 t kvs old).1 t (enterLoop s1 t kvs old).2 := by
  fun_induction enterLoop s1 t kvs old with
  | case1 => exact hr
  | case2 s1 k0 c0 rest old old' ih =>
    rw [List.map_cons, List.nodup_cons] at hn
    refine ih ((setLocal_localOnly s1 t k0 c0).valid hv) hn.2 ?_ ⟨savedSet_nodup hr.nodup _ _, fun k => ?_⟩
    · intro k hk
      rw [lookup_savedSet, if_neg (fun e : k = k0 => hn.1 (e ▸ hk))]
      exact hdis k (by simp [hk])
    · have hk := hr.cells k
      rw [lookup_savedSet]
      by_cases e : k = k0
      · -- the key being swapped is not saved yet, so it still has its cell of `s`, and that cell is captured now
        -- (for an absent key: a miss in `_d` is a miss in the shared dict)
        subst e
        have h0 : dLookup s1 t k = dLookup s t k := by simpa only [hdis k (by simp)] using hk
        rw [if_pos rfl, capture_eq_dLookup, ← h0]
        cases hc : dLookup s1 t k with
        | some c => rfl
        | none => exact (dLookup_eq_none.mp hc).2
      · simp only [e, if_false, dLookup, setLocal_loc s1 t k0 k c0 hv] at hk ⊢; exact hk

theorem exit_remembered {s s3 : St} {t : Nat} {f : Frame} {outer : List Frame} (hv : Valid s3 t)
    (hf : s3.frs t = f :: outer) (hr : Remembers s s3 t f.old)
    (ho : (if f.pushed then (s3.ovs t).tail else s3.ovs t) = s.ovs t) (hd : s3.defaults = s.defaults) :
    SameReads s (swapExit s3 t).1 t := by
  obtain ⟨xo, xd, _, xl⟩ := C11_exit_restores s3 t f outer hv hf hr.nodup
  exact ⟨xo.trans ho, fun k => (xl k).trans (hr.cells k), xd.trans hd⟩

theorem swapEnter_remembers (s : St) (t : Nat) (kvs : List (Key × Cell)) (o : Option Map) (hv : Valid s t)
    (hn : (kvs.map (·.1)).Nodup) :
    ∃ old, Valid (swapEnter s t kvs o) t ∧ (swapEnter s t kvs o).frs t = ⟨old, o.isSome⟩ :: s.frs t ∧
      Remembers s (swapEnter s t kvs o) t old ∧
      (if o.isSome then ((swapEnter s t kvs o).ovs t).tail else (swapEnter s t kvs o).ovs t) = s.ovs t ∧
      (swapEnter s t kvs o).defaults = s.defaults := by
  have hr := enterLoop_remembers s s t kvs [] hv hn (fun _ _ => rfl) ⟨.nil, fun _ => rfl⟩
  have hl := enterLoop_localOnly s t kvs []
  have hv1 := hl.valid hv
  unfold swapEnter
  generalize enterLoop s t kvs [] = r at hr hl hv1 ⊢
  obtain ⟨s1, old⟩ := r
  have hf : s1.frs t = s.frs t := by rw [St.frs, hl.frames]; rfl
  refine ⟨old, ?_⟩
  -- `Remembers` reads only `global` and the `_d` lookups, which the two pushes leave alone
  cases o <;> refine ⟨⟨hv1.l, by simp [hv1.o], by simp [hv1.f]⟩, (getD_set_self hv1.f).trans (congrArg _ hf),
    ⟨hr.nodup, hr.cells⟩, ?_, hl.defaults⟩
  case none => exact hl.ovs t
  -- the overlay pushed is the head of the stack, and its tail the stack `enterLoop` left
  case some => exact (congrArg List.tail (getD_set_self hv1.o)).trans (hl.ovs t)

theorem Remembers.of_sameReads {s s1 s2 : St} {t : Nat} {old : Saved} (hr : Remembers s s1 t old)
    (hg : s2.global = s1.global) (h : ∀ k, dLookup s2 t k = dLookup s1 t k) : Remembers s s2 t old :=
  ⟨hr.nodup, fun k => by rw [hg, h k]; exact hr.cells k⟩

/-- a scope around any body that leaves thread `t`'s reads, the shared dict and its frame stack as it found them (a scope that restores
is such a body, an assignment by `t` is not): `C11_restore` is the case `body := id` -/
theorem restore_around (s : St) (t : Nat) (kvs : List (Key × Cell)) (o : Option Map) (body : St → St)
    (hv : Valid s t) (hn : (kvs.map (·.1)).Nodup)
    (hb : ∀ s1, Valid s1 t → Valid (body s1) t ∧ (body s1).frs t = s1.frs t ∧ (body s1).global = s1.global ∧
      SameReads s1 (body s1) t) :
    SameReads s (swapExit (body (swapEnter s t kvs o)) t).1 t := by
  obtain ⟨old, hv1, hf, hr, ho, hd⟩ := swapEnter_remembers s t kvs o hv hn
  obtain ⟨hvb, hfb, hgb, hsr⟩ := hb _ hv1
  exact exit_remembered hvb (hfb.trans hf) (hr.of_sameReads hgb hsr.2.1) (by rw [hsr.1]; exact ho)
    (hsr.2.2.trans hd)

/-- C11 RESTORE (single scope, any keys, masks included, with or without an overlay, exit by return
or by exception — the same `finally` path): every read path of the thread is exactly as before. -/
theorem C11_restore (s : St) (t : Nat) (kvs : List (Key × Cell)) (o : Option Map) (hv : Valid s t)
    (hn : (kvs.map (·.1)).Nodup) : SameReads s (swapExit (swapEnter s t kvs o) t).1 t :=
  restore_around s t kvs o id hv hn fun s1 hv1 => ⟨hv1, rfl, rfl, sameReads_refl s1 t⟩

theorem detype_no_cache (s : St) (t : Nat) (h : s.detyped = none) : (detype s t).2 = detypeFresh s t := by
  unfold detype
  rw [h]
  cases (s.ovs t).isEmpty <;> rfl

theorem detype_in_overlay (s : St) (t : Nat) (h : (s.ovs t).isEmpty = false) :
    (detype s t).2 = detypeFresh s t := by
  unfold detype
  rw [h]
  cases s.detyped <;> rfl

theorem enterLoop_detyped (s : St) (t : Nat) (kvs : List (Key × Cell)) (old : Saved)
    (h : s.detyped = none ∨ kvs ≠ []) : (enterLoop s t kvs old).1.detyped = none := by
  induction kvs generalizing s old with
  | nil => exact h.resolve_right (fun h => h rfl)
  | cons p rest ih => exact ih _ _ (.inl rfl)

/-- PARTIAL (what does hold of "the mapping children receive reflects the values at launch"): a launch
made by the thread itself right after it entered a scope that swaps at least one variable computes the
mapping afresh from its own current values; so does one made while it has an overlay
(`detype_in_overlay`). -/
theorem C11_launch_in_scope_partial (s : St) (t : Nat) (kvs : List (Key × Cell)) (o : Option Map)
    (hne : kvs ≠ []) : (detype (swapEnter s t kvs o) t).2 = detypeFresh (swapEnter s t kvs o) t := by
  apply detype_no_cache
  have h := enterLoop_detyped s t kvs [] (.inr hne)
  unfold swapEnter
  cases o <;> exact h

/-- KNOWN FINDING `detype-cache-shared-across-threads` (open): thread 0 swaps `$3 = 9` and launches;
thread 1 then receives thread 0's mapping although it reads `$3 = 53`. -/
theorem C11_cex_cache_shared :
    let s0 := init 2 [(3, .val 53)] [] []
    let s2 := run s0 [(0, .enter [(3, .val 9)] none), (0, .detype)]
    (detype s2 1).2 = [(3, 9)] ∧ detypeFresh s2 1 = [(3, 53)] ∧ vGet s2 1 3 = some 53 := by
  decide

/-- the capture rule of the pinned snapshot (repaired in /repo faca9c2) recorded the registered
DEFAULT of an unset variable, which the restore step then wrote into the thread-local layer -/
theorem C11_old_capture_cex :
    let s0 := init 1 [] [(0, 100)] [0]
    captureOld s0 0 0 = some (.val 100) ∧ capture s0 0 0 = none := by
  decide

/-! ## non-vacuity -/

example : Valid (init 2 [(3, .val 53)] [(0, 100)] [0]) 1 := ⟨by decide, by decide, by decide⟩
example : detypeCells (swapEnter (init 1 [(3, .val 53)] [] []) 0 [(3, .mask)] none) 0 3 = some .mask := by decide
example : vGet (swapExit (swapEnter (init 1 [(3, .val 53)] [] []) 0 [(3, .mask)] (some [(4, .val 1)])) 0).1 0 3 = some 53 := by
  decide
