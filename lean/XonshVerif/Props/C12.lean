/-
C12 — History records every command once, in order, and reads it back verbatim.
Theorems over the hand-written models `JsonHist` (buffer / flusher-queue machine) and `LJ`
(self-indexing JSON writer), tied to the code by xv/props/c12.py.
-/
import XonshVerif.Model.JsonHist
import XonshVerif.Lemmas.LazyJson
open JsonHist

theorem dumpFilter_sublist (c : Cfg) (l : List Cmd) (last : Option Nat) : (dumpFilter c l last).Sublist l := by
  induction l generalizing last with
  | nil => exact .slnil
  | cons x xs ih =>
    simp only [dumpFilter]
    split
    · exact (ih last).cons _
    · split
      · exact (ih last).cons _
      · exact (ih _).cons_cons _

def NoFilter (c : Cfg) : Prop := c.ignoredups = false ∧ c.ignoreerr = false

theorem dumpFilter_id (c : Cfg) (hc : NoFilter c) (l : List Cmd) (last : Option Nat) : dumpFilter c l last = l := by
  induction l generalizing last with
  | nil => rfl
  | cons x xs ih => simp [dumpFilter, hc.1, hc.2, ih]

theorem drain_induct (c : Cfg) {P : St → Prop} (hP : ∀ s, P s → P (flusherRuns c s)) (s : St) (h : P s) : P (drain c s) := by
  unfold drain
  generalize s.queue = l
  induction l generalizing s with
  | nil => exact h
  | cons _ l ih => exact ih _ (hP s h)

theorem readIdx_induct (c : Cfg) {P : St → Prop} (hP : ∀ s, P s → P (flusherRuns c s)) (s : St) (i : Nat) (h : P s) :
    P (readIdx c s i).1 := by
  have hd := drain_induct c hP s h
  unfold readIdx
  simp only []      -- reduces the `let`s
  split
  · exact h
  · split <;> split <;> assumption

theorem flush_inv (s : St) (h : HInv s) : HInv (flush s) := by
  unfold flush
  split
  · exact h
  · unfold HInv at *; simp [List.sum_append]; omega

theorem append_inv (c : Cfg) (s : St) (x : Cmd) (h : HInv s) : HInv (append c s x) := by
  unfold append
  split
  · exact h
  · have h1 : HInv { s with buffer := s.buffer ++ [x], len := s.len + 1 } := by
      unfold HInv at *; simp; omega
    simp only []
    split
    · exact flush_inv _ h1
    · exact h1

theorem flusherRuns_inv (c : Cfg) (s : St) (h : HInv s) : HInv (flusherRuns c s) := by
  unfold flusherRuns
  cases hq : s.queue with
  | nil => simpa [hq] using h
  | cons snap rest =>
    have := (dumpFilter_sublist c snap none).length_le
    unfold HInv at *
    simp [hq] at h ⊢
    omega

theorem step_inv (c : Cfg) (s : St) (op : Op) (h : HInv s) : HInv (step c s op).1 := by
  cases op with
  | append x => exact append_inv c s x h
  | flush => exact flush_inv s h
  | flusherRuns => exact flusherRuns_inv c s h
  | read i => exact readIdx_induct c (flusherRuns_inv c) s i h

def Kept (c : Cfg) (l' l : List Cmd) : Prop := l'.Sublist l ∧ (NoFilter c → l' = l)

theorem Kept.refl {c : Cfg} {l : List Cmd} : Kept c l l := ⟨.refl l, fun _ => rfl⟩

theorem Kept.trans {c : Cfg} {l₁ l₂ l₃ : List Cmd} (h : Kept c l₁ l₂) (h' : Kept c l₂ l₃) : Kept c l₁ l₃ :=
  ⟨h.1.trans h'.1, fun hc => (h.2 hc).trans (h'.2 hc)⟩

theorem Kept.append {c : Cfg} {l₁ l₁' l₂ l₂' : List Cmd} (h₁ : Kept c l₁' l₁) (h₂ : Kept c l₂' l₂) :
    Kept c (l₁' ++ l₂') (l₁ ++ l₂) :=
  ⟨h₁.1.append h₂.1, fun hc => by rw [h₁.2 hc, h₂.2 hc]⟩

theorem dumpFilter_kept (c : Cfg) (l : List Cmd) : Kept c (dumpFilter c l none) l :=
  ⟨dumpFilter_sublist c l none, fun hc => dumpFilter_id c hc l none⟩

/-- what `append` adds to the log: the command itself, unless `ignorespace` excludes it -/
def accepted (c : Cfg) (x : Cmd) : List Cmd := if c.ignorespace && x.spc then [] else [x]

def appendedOf (c : Cfg) : List Op → List Cmd
  | [] => []
  | .append x :: rest => accepted c x ++ appendedOf c rest
  | _ :: rest => appendedOf c rest

theorem appendedOf_cons (c : Cfg) (op : Op) (rest : List Op) :
    appendedOf c (op :: rest) = appendedOf c [op] ++ appendedOf c rest := by
  cases op <;> simp [appendedOf]

theorem contents_flush (c : Cfg) (s : St) :
    contents c (flush s) = s.file ++ s.queue.flatMap (fun snap => dumpFilter c snap none) ++ dumpFilter c s.buffer none := by
  unfold flush contents
  by_cases h : s.buffer.isEmpty = true
  · have : s.buffer = [] := by simpa using h
    simp [this, dumpFilter]
  · simp [h, List.flatMap_append]

theorem flush_kept (c : Cfg) (s : St) : Kept c (contents c (flush s)) (contents c s) := by
  rw [contents_flush]
  exact Kept.refl.append (dumpFilter_kept c s.buffer)

theorem contents_flusherRuns (c : Cfg) (s : St) : contents c (flusherRuns c s) = contents c s := by
  unfold flusherRuns contents
  cases hq : s.queue with
  | nil => simp [hq]
  | cons snap rest => simp [List.append_assoc]

theorem step_kept (c : Cfg) (s : St) (op : Op) :
    Kept c (contents c (step c s op).1) (contents c s ++ appendedOf c [op]) := by
  cases op with
  | append x =>
    simp only [step, append, appendedOf, accepted, List.append_nil]
    split
    · rw [List.append_nil]; exact .refl
    · have e : contents c { s with buffer := s.buffer ++ [x], len := s.len + 1 } = contents c s ++ [x] := by
        simp [contents]
      split
      · exact e ▸ flush_kept c _
      · exact e ▸ .refl
  | flush => simp only [appendedOf, List.append_nil]; exact flush_kept c s
  | flusherRuns => simp only [appendedOf, List.append_nil, step, contents_flusherRuns]; exact .refl
  | read i =>
    simp only [appendedOf, List.append_nil]
    exact readIdx_induct c (P := fun s' => Kept c (contents c s') (contents c s))
      (fun s' h => by rwa [contents_flusherRuns]) s i .refl

theorem run_inv (c : Cfg) (ops : List Op) (s : St) (l : List Cmd) (h : HInv s) (hk : Kept c (contents c s) l) :
    HInv (run c s ops) ∧ Kept c (contents c (run c s ops)) (l ++ appendedOf c ops) := by
  induction ops generalizing s l with
  | nil => rw [appendedOf, List.append_nil]; exact ⟨h, hk⟩
  | cons op rest ih =>
    rw [run, appendedOf_cons, ← List.append_assoc]
    exact ih _ _ (step_inv c s op h) ((step_kept c s op).trans (hk.append .refl))

/-- `contents c init` computes to `[]` -/
theorem run_init (c : Cfg) (ops : List Op) :
    HInv (run c init ops) ∧ Kept c (contents c (run c init ops)) (appendedOf c ops) :=
  run_inv c ops init [] (by simp [HInv, init]) .refl

/-- `_len`, `_skipped`, the file, the pending flushers and the buffer always add up -/
theorem C12_accounting (c : Cfg) (ops : List Op) : HInv (run c init ops) :=
  (run_init c ops).1

/-- C12 (log refinement): every accepted command is recorded exactly once, in append order —
for ALL op sequences, buffer sizes and flusher schedules -/
theorem C12_log (c : Cfg) (hc : NoFilter c) (ops : List Op) :
    contents c (run c init ops) = appendedOf c ops :=
  (run_init c ops).2.2 hc

/-- with ignoredups / ignoreerr the log is still an in-order sub-sequence of what was appended:
commands are only ever dropped, never duplicated, reordered or invented -/
theorem C12_log_sublist (c : Cfg) (ops : List Op) :
    (contents c (run c init ops)).Sublist (appendedOf c ops) :=
  (run_init c ops).2.1

theorem drain_file (c : Cfg) (s : St) :
    (drain c s).file = s.file ++ s.queue.flatMap (fun snap => dumpFilter c snap none) := by
  unfold drain
  generalize hq : s.queue = l
  induction l generalizing s with
  | nil => simp
  | cons snap l ih => rw [List.foldl_cons, ih (flusherRuns c s) (by simp [flusherRuns, hq])]; simp [flusherRuns, hq]

theorem drain_contents (c : Cfg) (s : St) : (drain c s).file ++ s.buffer = contents c s := by
  rw [drain_file, contents]

/-- `hq`: no pending flusher will drop an entry of its snapshot; `len` has counted the queued snapshots whole (`HInv`), so
only then is `size s` the length of `contents c s` (`hlen`).  `log` is a variable so that a caller can name the log in its
own terms without rewriting under the index bound -/
theorem readIdx_contents (c : Cfg) (s : St) (h : HInv s) (hq : ∀ snap ∈ s.queue, dumpFilter c snap none = snap)
    (i : Nat) (hi : i < size s) (log : List Cmd) (hlog : contents c s = log) :
    ∃ hlen : log.length = size s, (readIdx c s i).2 = .val (log[i]'(hlen ▸ hi)) := by
  have hlen : log.length = size s := by
    rw [← hlog, contents, List.flatMap_def, List.map_congr_left hq, List.map_id']
    unfold size HInv at *
    simp only [List.length_append, List.length_flatten]
    omega
  refine ⟨hlen, ?_⟩
  -- for a file read the queue is drained first
  obtain rfl := (drain_contents c s).trans hlog
  rw [List.length_append] at hlen
  have hi' := hlen ▸ hi
  have h0 := not_or.2 ⟨Nat.ne_of_gt (Nat.zero_lt_of_lt hi'), Nat.not_le.2 hi'⟩
  simp only [readIdx, ← hlen, h0, if_false, Nat.add_sub_cancel, Nat.add_sub_add_right]
  by_cases hb : (drain c s).file.length ≤ i
  · rw [if_pos hb, List.getElem_append_right hb, List.getElem?_eq_getElem (Nat.sub_lt_left_of_lt_add hb hi')]
  · rw [if_neg hb, List.getElem_append_left (Nat.not_le.1 hb), List.getElem?_eq_getElem (Nat.not_le.1 hb)]

/-- at quiescence (no flusher pending) `len` is the number of recorded commands and every index
below it reads the right command — for every reachable state, filters or not -/
theorem C12_quiescent_readback (c : Cfg) (s : St) (h : HInv s) (hq : s.queue = []) (i : Nat)
    (hi : i < size s) :
    size s = (s.file ++ s.buffer).length ∧ (readIdx c s i).2 = .val ((s.file ++ s.buffer)[i]'(by
      unfold size HInv at *; simp [hq] at h; simp; omega)) := by
  obtain ⟨hlen, hr⟩ := readIdx_contents c s h (by simp [hq]) i hi (s.file ++ s.buffer) (by simp [contents, hq])
  exact ⟨hlen.symm, hr⟩

/-- PARTIAL (no ignoredups / ignoreerr): `len(history)` and indexing are mutually consistent at
EVERY reachable state — flushes in flight included: no index below `len` ever raises -/
theorem C12_len_index_consistent_partial (c : Cfg) (hc : NoFilter c) (s : St) (h : HInv s)
    (hsk : s.skipped = 0) (i : Nat) (hi : i < size s) : (readIdx c s i).2 ≠ .indexError := by
  obtain ⟨_, hr⟩ := readIdx_contents c s h (fun snap _ => dumpFilter_id c hc snap none) i hi _ rfl
  rw [hr]
  exact Read.noConfusion

/-- KNOWN FINDING `len-counts-commands-a-pending-flush-will-drop`: buffer size 4, ignoredups; after
appending a a a b c one flusher is pending, `len` is 5, and reading index 3 raises IndexError -/
theorem C12_cex_len_index :
    let c : Cfg := ⟨4, true, false, false⟩
    let s := run c init [.append ⟨1, 0, false⟩, .append ⟨1, 0, false⟩, .append ⟨1, 0, false⟩,
      .append ⟨2, 0, false⟩, .append ⟨3, 0, false⟩]
    size s = 5 ∧ (readIdx c s 3).2 = .indexError := by
  decide

example : NoFilter ⟨3, false, false, true⟩ := ⟨rfl, rfl⟩
example : HInv (run ⟨2, true, true, false⟩ init [.append ⟨1, 0, false⟩, .append ⟨1, 1, false⟩, .flusherRuns]) :=
  C12_accounting _ _

/-- C12 (read-back): for EVERY JSON value — any nesting, any leaf texts, any keys — every node's
index entry `(offset, size)` produced by `_to_json_with_size` cuts out of the serialised text
exactly the node's own serialisation.  So a lazy read of any command, field or list element of a
history file returns the text that was written for it, whatever else the file holds. -/
theorem C12_lazyjson_addressing (v : LJ.J) (d : LJ.J) (o s : Nat)
    (h : (d, o, s) ∈ LJ.nodes v (LJ.ser v 0).offs (LJ.ser v 0).sizes) :
    LJ.slice (LJ.ser v 0).text o s = (LJ.ser d 0).text :=
  (LJ.nodes_located v 0 d o s h).2.2      -- `o - 0` is `o`

/-- …and the entries never reach outside the text -/
theorem C12_lazyjson_in_bounds (v : LJ.J) (d : LJ.J) (o s : Nat)
    (h : (d, o, s) ∈ LJ.nodes v (LJ.ser v 0).offs (LJ.ser v 0).sizes) :
    o + s ≤ (LJ.ser v 0).text.length := by
  simpa using (LJ.nodes_located v 0 d o s h).2.1

/-- non-vacuity: a nested value has inner nodes at non-zero offsets, and they are in `nodes` -/
example :
    let v : LJ.J := .obj [("\"a\"".toList, .arr [.leaf "1".toList, .leaf "\"xy\"".toList]), ("\"b\"".toList, .leaf "null".toList)]
    (LJ.nodes v (LJ.ser v 0).offs (LJ.ser v 0).sizes).map (fun n => (n.2.1, n.2.2)) = [(0, 29), (6, 10), (7, 1), (10, 4), (23, 4)] ∧
    String.ofList (LJ.ser v 0).text = "{\"a\": [1, \"xy\"]\n, \"b\": null}\n" := by decide +kernel
