import XonshVerif.Model.LogicalLine
/-
C03 — the vocabulary of the C03 statements about logical lines that the model file does not have (`accLine`, `glue`,
`SplitsBack`), and what the two walks of `get_logical_line` and the cutting loop of `replace_logical_line` do.
-/
namespace LogicalLine

/-- the accumulated text after `m` forward steps from `start` -/
def accLine (sc : Scan) (ls : List Line) (start : Nat) : Nat → Line
  | 0 => ls.getD start []
  | m + 1 => stepLine sc (accLine sc ls start m) (ls.getD (start + m + 1) [])

/-- what the forward walk computes when every link of the window is a backslash continuation -/
def glue : List Line → Line → Line
  | [], last => last
  | l :: ws, last => l.dropLast ++ glue ws last

/-- every line of the window ends with the continuation character and is followed by text that starts with a blank -/
def SplitsBack : List Line → Line → Prop
  | [], _ => True
  | l :: ws, last => l.getLast? = some '\\' ∧ (glue ws last).head? = some ' ' ∧ SplitsBack ws last

theorem backStart_spec (sc : Scan) (ls : List Line) (idx : Nat) :
    backStart sc ls idx ≤ idx ∧ (∀ k, backStart sc ls idx ≤ k → k < idx → backTest sc ls k = true) ∧
      (backStart sc ls idx = 0 ∨ backTest sc ls (backStart sc ls idx - 1) = false) := by
  fun_induction backStart sc ls idx with
  | case1 => exact ⟨Nat.le_refl 0, fun k _ h => absurd h (Nat.not_lt_zero k), .inl rfl⟩
  | case2 i h ih =>       -- the test on line `i` passes: one more line in the window
    exact ⟨Nat.le_succ_of_le ih.1, fun k hk hki => if e : k = i then e ▸ h else ih.2.1 k hk (by omega), ih.2.2⟩
  | case3 i h => exact ⟨Nat.le_refl _, fun k hk hki => by omega, .inr (by simpa using h)⟩

/-- the forward walk seen from its `m`-th step -/
theorem fwd_spec (sc : Scan) (ls : List Line) (start m : Nat) (hle : start + m + 1 ≤ ls.length) (line : Line) (n : Nat)
    (h : fwd sc (accLine sc ls start m) (ls.drop (start + m + 1)) (m + 1) = (line, n)) :
    m < n ∧ start + n ≤ ls.length ∧ (∀ k, m ≤ k → k + 1 < n → joins sc (accLine sc ls start k) = true) ∧
      (start + n = ls.length ∨ joins sc (accLine sc ls start (n - 1)) = false) := by
  -- induction on the number of lines still to come
  obtain ⟨left, hl⟩ := Nat.exists_eq_add_of_le hle
  induction left generalizing m with
  | zero =>
    rw [List.drop_eq_nil_of_le (by omega), fwd] at h
    obtain ⟨-, rfl⟩ := Prod.mk.inj h
    exact ⟨Nat.lt_succ_self m, hle, fun k hk hk2 => by omega, .inl (by omega)⟩
  | succ left ih =>
    have hlt : start + m + 1 < ls.length := by omega
    rw [List.drop_eq_getElem_cons hlt, fwd] at h
    split at h
    · next hj =>
      have hacc : stepLine sc (accLine sc ls start m) ls[start + m + 1] = accLine sc ls start (m + 1) := by
        simp [accLine, hlt]
      have := ih (m + 1) hlt (hacc ▸ h) (by omega)
      exact ⟨by omega, this.2.1, fun k hk hk2 => if e : k = m then e ▸ hj else this.2.2.1 k (by omega) hk2, this.2.2.2⟩
    · next hj =>
      obtain ⟨-, rfl⟩ := Prod.mk.inj h
      exact ⟨Nat.lt_succ_self m, by omega, fun k hk hk2 => by omega, .inr (by simpa using hj)⟩

theorem pieces_spec (lens : List Nat) (logical : Line) :
    (pieces lens logical).1.length = lens.length ∧
      ((pieces lens logical).1.map Prod.fst).flatten ++ (pieces lens logical).2 = logical := by
  fun_induction pieces lens logical with
  | case1 logical => exact ⟨rfl, rfl⟩
  | case2 a as logical _ r ih =>        -- no blank: the whole text is this piece, nothing is left
    exact ⟨congrArg (· + 1) ih.1, by rw [List.map_cons, List.flatten_cons, List.append_assoc, ih.2, List.append_nil]⟩
  | case3 a as logical b _ r ih =>      -- cut at the blank found at `b`
    exact ⟨congrArg (· + 1) ih.1, by rw [List.map_cons, List.flatten_cons, List.append_assoc, ih.2, List.take_append_drop]⟩

theorem findSpaceFrom_skip : ∀ (xs ys : Line) (p : Nat),
    findSpaceFrom (xs ++ ' ' :: ys) xs.length p = some (p + xs.length) := by
  intro xs
  induction xs with
  | nil => intro ys p; simp [findSpaceFrom]
  | cons x xs ih =>
    intro ys p
    simp only [List.cons_append, List.length_cons, findSpaceFrom]
    rw [ih]; congr 1; omega

/-- a physical line `ys\` whose logical continuation starts with a blank is cut off again where it was glued -/
theorem pyFind_blank (ys g : Line) : pyFind (ys ++ ' ' :: g) (ys.length + 1) = some ys.length := by
  rw [pyFind, if_neg (Nat.succ_ne_zero _), Nat.add_sub_cancel, findSpaceFrom_skip, Nat.zero_add]

end LogicalLine
