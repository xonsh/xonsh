/-
The run loop: what one `step` appends to the output (`step_out`) and, from it, the invariant of `runFrom` (`runFrom_out`):
the real tokens in order, each as its rendered text, and between them only separators with `SepOk`.
-/
import XonshVerif.Lemmas.FormatFinalize
import XonshVerif.Lemmas.FormatRules

namespace Format

/-- the kinds `_Formatter.run` re-emits as text (everything except the structural tokens) -/
def isReal (k : Kind) : Bool :=
  !(k = .encoding || k = .endmarker || k = .indent || k = .dedent || k = .newline || k = .nl)

theorem step_out (cfg : Cfg) (st : St) (t : Tok) (rest : List Tok) :
    ∃ lead : List Piece, (∀ p ∈ lead, SepOk cfg p) ∧
      (step cfg st t rest).out.reverse =
        st.out.reverse ++ lead ++ (if !st.done && isReal t.kind then [tokP (renderToken cfg t)] else []) ∧
      (step cfg st t rest).done = (st.done || decide (t.kind = .endmarker)) := by
  have real : (stepReal cfg st t rest).out.reverse =
      st.out.reverse ++ (leadOf cfg st t rest).pieces ++ [tokP (renderToken cfg t)] := by simp [stepReal]
  unfold step
  cases hd : st.done
  · cases hk : t.kind
    case nl =>
      cases hl : st.lineStart
      · exact ⟨[sepP .nlCont ['\n']], by simpa using sepP_ok rfl, by simp [isReal], rfl⟩
      · exact ⟨[], by simp, by simp [isReal], rfl⟩
    case newline => exact ⟨[sepP .newline ['\n']], by simpa using sepP_ok rfl, by simp [isReal], rfl⟩
    case encoding | endmarker | indent | dedent => exact ⟨[], by simp, by simp [isReal], by simp [hd]⟩
    -- the real kinds: `!false && isReal k` evaluates to `true` at each constructor `k` left, so the statement's `if` is the
    -- `[tokP …]` of `real`
    all_goals exact ⟨_, leadOf_ok cfg st t rest, real, hd⟩
  · exact ⟨[], by simp, by simp, hd⟩

/-- the tokens the run loop re-emits: the real ones before the first ENDMARKER -/
def realToks : Bool → List Tok → List Tok
  | _, [] => []
  | done, t :: ts =>
    if done then []
    else (if isReal t.kind then [t] else []) ++ realToks (decide (t.kind = .endmarker)) ts

theorem realToks_done (l : List Tok) : realToks true l = [] := by cases l <;> simp [realToks]

theorem realToks_cons (d : Bool) (t : Tok) (ts : List Tok) :
    realToks d (t :: ts) =
      (if !d && isReal t.kind then [t] else []) ++ realToks (d || decide (t.kind = .endmarker)) ts := by
  cases d <;> simp [realToks, realToks_done]

theorem toksOf_append (a b : List Piece) : toksOf (a ++ b) = toksOf a ++ toksOf b := by
  simp [toksOf, List.filter_append]

theorem toksOf_seps {l : List Piece} (h : ∀ p ∈ l, p.isTok = false) : toksOf l = [] := by
  induction l with
  | nil => rfl
  | cons p ps ih =>
    rw [toksOf_cons, h p (List.mem_cons_self ..), ih fun q hq => h q (List.mem_cons_of_mem _ hq)]; rfl

theorem runFrom_out (cfg : Cfg) (toks : List Tok) : ∀ st : St, ∃ new : List Piece,
    (runFrom cfg st toks).out.reverse = st.out.reverse ++ new ∧
    toksOf new = (realToks st.done toks).flatMap (renderToken cfg) ∧
    ∀ p ∈ new, p.isTok = false → SepOk cfg p := by
  induction toks with
  | nil => exact fun st => ⟨[], (List.append_nil _).symm, rfl, fun _ h => nomatch h⟩
  | cons t rest ih =>
    intro st
    obtain ⟨lead, hlead, hout, hdone⟩ := step_out cfg st t rest
    obtain ⟨new, hnew, htoks, hseps⟩ := ih (step cfg st t rest)
    refine ⟨lead ++ (if !st.done && isReal t.kind then [tokP (renderToken cfg t)] else []) ++ new, ?_, ?_, ?_⟩
    · rw [runFrom, hnew, hout]; simp only [List.append_assoc]
    · rw [toksOf_append, toksOf_append, htoks, hdone, realToks_cons, toksOf_seps fun p hp => (hlead p hp).1]
      split <;> simp [toksOf, tokP]
    · simp only [List.forall_mem_append]
      exact ⟨⟨fun p hp _ => hlead p hp, by split <;> simp [tokP]⟩, hseps⟩

end Format
