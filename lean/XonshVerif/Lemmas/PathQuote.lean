/-
C18, the completer's side: what `_quote_paths` writes.  The escaping passes of a non-raw literal are fused
into one encoder (`enc`, general in the closing quote); a raw literal is its candidate verbatim.  The reader's
side is Lemmas/PathQuoteRead.lean, the two put together Lemmas/PathQuoteRound.lean.
-/
import XonshVerif.Model.PathQuote
import XonshVerif.Lemmas.ListFacts
namespace PathQuote

theorem getLast?_drop_ne {a : Char} {l : Str} (n : Nat) (h : l.getLast? ≠ some a) : (l.drop n).getLast? ≠ some a := by
  rw [List.getLast?_drop]
  split
  · simp
  · exact h

theorem endsWith_bs_iff (x : Str) : endsWith x [bs] = true ↔ x.getLast? = some bs :=
  List.isSuffixOf_iff_suffix.trans List.singleton_suffix_iff_getLast?_eq_some

theorem isInfix_iff {pat s : Str} : isInfix pat s = true ↔ pat <:+: s := by
  induction s with
  | nil => simp [isInfix]
  | cons c r ih => rw [isInfix, Bool.or_eq_true, ih, List.isPrefixOf_iff_prefix, List.infix_cons_iff]

theorem isInfix_nil (x : Str) : isInfix [] x = true := isInfix_iff.mpr List.nil_infix

theorem isInfix_singleton (c : Char) (s : Str) : isInfix [c] s = s.contains c := by
  rw [Bool.eq_iff_iff, isInfix_iff, List.contains_iff_mem]
  exact ⟨fun h => h.subset (List.mem_singleton_self c), fun h => by
    obtain ⟨a, b, rfl⟩ := List.append_of_mem h; exact ⟨a, b, by simp⟩⟩

theorem isInfix_snoc {e : Str} {a : Char} (ha : a ∉ e) (he : e ≠ []) (s : Str) :
    isInfix e (s ++ [a]) = isInfix e s := by
  rw [Bool.eq_iff_iff, isInfix_iff, isInfix_iff, List.infix_concat_iff]
  -- a suffix of `s ++ [a]` ends in `a`
  refine ⟨fun h => h.resolve_left fun hs => ha ?_, Or.inr⟩
  have := hs.getLast he
  rw [List.getLast_concat] at this
  exact this ▸ List.getLast_mem he

theorem bs_ne_sq : bs ≠ sq := by decide
theorem bs_ne_dq : bs ≠ dq := by decide

theorem contains_false_iff (s : Str) (c : Char) : s.contains c = false ↔ c ∉ s := by
  rw [← Bool.not_eq_true, List.contains_iff_mem]

theorem contains_true_iff (s : Str) (c : Char) : s.contains c = true ↔ c ∈ s := List.contains_iff_mem

theorem getLast?_cons_ne {c : Char} {t : Str} (ht : t ≠ []) : (c :: t).getLast? = t.getLast? :=
  List.getLast?_cons_of_ne_nil ht

theorem replaceGo_single (a : Char) (rep s : Str) :
    replaceGo [a] rep 0 s = s.flatMap (fun c => if c = a then rep else [c]) := by
  induction s with
  | nil => rfl
  | cons c cs ih =>
    simp only [replaceGo, List.isPrefixOf, List.length_singleton, Nat.sub_self, List.flatMap_cons, ih]
    by_cases h : c = a
    · subst h; simp
    · have : (a == c) = false := beq_eq_false_iff_ne.mpr (fun e => h e.symm)
      simp [this, h]

theorem replaceGo_skip (pat rep l y : Str) : replaceGo pat rep l.length (l ++ y) = replaceGo pat rep 0 y := by
  induction l with
  | nil => rfl
  | cons c l ih => exact ih

theorem replaceGo_occ {pat : Str} (hp : pat ≠ []) (rep y : Str) :
    replaceGo pat rep 0 (pat ++ y) = rep ++ replaceGo pat rep 0 y := by
  obtain ⟨a, p, rfl⟩ := List.exists_cons_of_ne_nil hp
  rw [List.cons_append, replaceGo, if_pos (List.isPrefixOf_iff_prefix.mpr ⟨y, List.cons_append⟩), List.length_cons,
    Nat.add_sub_cancel, replaceGo_skip]

theorem replaceGo_not_infix (pat rep : Str) (y : Str) (h : isInfix pat y = false) :
    replaceGo pat rep 0 y = y := by
  induction y with
  | nil => rfl
  | cons c r ih =>
    simp only [isInfix, Bool.or_eq_false_iff] at h
    simp only [replaceGo, h.1, Bool.false_eq_true, if_false, ih h.2]

/-- `_quote_paths` replaces only when there is an occurrence: the test changes nothing -/
theorem replaceAll_cond {e : Str} (he : e.isEmpty = false) (rep y : Str) :
    (if isInfix e y then replaceAll e rep y else y) = replaceGo e rep 0 y := by
  split
  · simp only [replaceAll, he, Bool.false_eq_true, if_false]
  · rename_i h; rw [replaceGo_not_infix _ _ _ (by simpa using h)]

theorem translate_cons (tbl : List (Char × Str)) (c : Char) (b : Str) :
    translate tbl (c :: b) = (tbl.lookup c).getD [c] ++ translate tbl b := by
  simp [translate, List.flatMap_cons]

theorem translate_append (tbl : List (Char × Str)) (a b : Str) :
    translate tbl (a ++ b) = translate tbl a ++ translate tbl b := by
  simp [translate, List.flatMap_append]

theorem translate_id {tbl : List (Char × Str)} {s : Str} (h : ∀ c ∈ s, tbl.lookup c = none) :
    translate tbl s = s :=
  List.flatMap_eq_self _ s fun c hc => by rw [h c hc]; rfl

def dirTail (d : Bool) : Str := if d then ['/'] else []

theorem any_append_dirTail {p : Char → Bool} (hp : p '/' = false) {s : Str} (h : s.any p = false) (d : Bool) :
    (s ++ dirTail d).any p = false := by
  cases d <;> simp [dirTail, h, hp]

theorem isInfix_append_dirTail {e : Str} (he : e ≠ []) (h : '/' ∉ e) (s : Str) (d : Bool) :
    isInfix e (s ++ dirTail d) = isInfix e s := by
  cases d with
  | false => simp [dirTail]
  | true => exact isInfix_snoc h he s

theorem getLast?_append_dirTail {a : Char} (ha : a ≠ '/') (s : Str) (d : Bool) (h : d = false → s.getLast? ≠ some a) :
    (s ++ dirTail d).getLast? ≠ some a := by
  cases d with
  | true => simpa [dirTail] using Ne.symm ha
  | false => simpa [dirTail] using h rfl

/-- the decidable conditions on the translated tables (discharged by `decide +kernel` for Gen/Quote.lean) -/
structure TablesOk (T : Tables) : Prop where
  /-- every character that ends or changes a bare word forces quoting (the backslash does so through
  `name_needs_quotes`' own clause) -/
  unsafeSpecial : bareUnsafe.all (fun c => c == bs || T.special c) = true
  /-- the lexer's AND / OR names force quoting -/
  kwQuoted : readerKeywords.all (needsQuotes T) = true
  /-- `_CONTROL_CHAR_ESCAPE` escapes exactly the documented control characters … -/
  ctrlKeysSub : T.ctrl.all (fun kv => escapedCtrl.contains kv.1) = true
  ctrlKeysSup : escapedCtrl.all (fun c => (T.ctrl.lookup c).isSome) = true
  /-- … each by a backslash and the letter whose escape denotes it -/
  ctrlVals : T.ctrl.all (fun kv => match kv.2 with
    | [b, e] => b == bs && simpleEscape e == some kv.1 && !isLineBreak e && e != sq && e != dq && e != bs
    | _ => false) = true
  /-- the separator appended to a directory is an ordinary character of a bare word -/
  slashPlain : (oddChar T '/' || T.special '/') = false
  quoteToUse : ∀ x, T.quoteToUse x = quoteToUseRef x
  rawQuote : ∀ x, T.rawQuote x = rawQuoteRef x

theorem TablesOk.val {T : Tables} (ok : TablesOk T) {c : Char} {v : Str} (h : T.ctrl.lookup c = some v) :
    escapedCtrl.contains c = true ∧ ∃ e, v = [bs, e] ∧ simpleEscape e = some c := by
  have hm := List.mem_of_lookup_eq_some h
  have h1 := List.all_eq_true.mp ok.ctrlVals _ hm
  refine ⟨List.all_eq_true.mp ok.ctrlKeysSub _ hm, ?_⟩
  match v, h1 with
  | [b, e], h1 =>
    simp only [Bool.and_eq_true, beq_iff_eq, Bool.not_eq_true'] at h1
    obtain ⟨⟨⟨⟨⟨rfl, he⟩, _⟩, _⟩, _⟩, _⟩ := h1
    exact ⟨e, rfl, he⟩

theorem TablesOk.lookup_none_iff {T : Tables} (ok : TablesOk T) (c : Char) :
    T.ctrl.lookup c = none ↔ escapedCtrl.contains c = false := by
  constructor
  · exact fun h => Bool.eq_false_iff.mpr fun hc => by
      simpa [h] using List.all_eq_true.mp ok.ctrlKeysSup c (List.contains_iff_mem.mp hc)
  · intro h
    cases hl : T.ctrl.lookup c with
    | none => rfl
    | some v => rw [(ok.val hl).1] at h; cases h

theorem TablesOk.notKey {T : Tables} (ok : TablesOk T) {c : Char} (h : escapedCtrl.contains c = false) :
    T.ctrl.lookup c = none := (ok.lookup_none_iff c).mpr h

theorem TablesOk.hasCtrl_eq {T : Tables} (ok : TablesOk T) (s : Str) :
    hasCtrl T s = s.any (fun c => escapedCtrl.contains c) := by
  apply Bool.eq_iff_iff.mpr
  simp only [hasCtrl, List.any_eq_true]
  constructor
  · rintro ⟨kv, hkv, hc⟩
    exact ⟨kv.1, List.contains_iff_mem.mp hc, List.all_eq_true.mp ok.ctrlKeysSub _ hkv⟩
  · rintro ⟨c, hc, hk⟩
    have := List.all_eq_true.mp ok.ctrlKeysSup c (List.contains_iff_mem.mp hk)
    obtain ⟨kv, hkv, e⟩ := List.lookup_isSome_iff.mp this
    exact ⟨kv, hkv, by rw [← beq_iff_eq.mp e]; exact List.contains_iff_mem.mpr hc⟩

theorem needsRaw_eq {T : Tables} (ok : TablesOk T) (s : Str) :
    needsRaw T s = ((s.contains bs || s.contains '$') && !(s.any fun c => escapedCtrl.contains c)) := by
  simp [needsRaw, ok.hasCtrl_eq]

structure QuoteChar (q : Char) : Prop where
  ne_bs : q ≠ bs
  ne_slash : q ≠ '/'
  ne_space : q ≠ ' '
  notKey : escapedCtrl.contains q = false
  escape : simpleEscape q = some q

theorem quoteChar {q : Char} (hq : q = sq ∨ q = dq) : QuoteChar q := by
  rcases hq with rfl | rfl <;> exact ⟨by decide, by decide, by decide, by decide, by decide⟩

def quote (q : Char) (triple : Bool) : Str := if triple then [q, q, q] else [q]

theorem mem_quote {q c : Char} {triple : Bool} (h : c ∈ quote q triple) : c = q := by
  cases triple <;> simpa [quote] using h

theorem quote_ne_nil (q : Char) (triple : Bool) : quote q triple ≠ [] := by cases triple <;> simp [quote]

theorem quote_isEmpty (q : Char) (triple : Bool) : (quote q triple).isEmpty = false := by cases triple <;> rfl

theorem quote_length (q : Char) (triple : Bool) : ((quote q triple).length == 3) = triple := by cases triple <;> rfl

def opening (raw : Bool) (q : Char) (triple : Bool) : Str := (if raw then ['r'] else []) ++ quote q triple

theorem opening_isEmpty (raw : Bool) (q : Char) (triple : Bool) : (opening raw q triple).isEmpty = false := by
  cases raw <;> cases triple <;> rfl

theorem isRawStart_opening {q : Char} (hq : q = sq ∨ q = dq) (raw triple : Bool) :
    isRawStart (opening raw q triple) = raw := by
  rcases hq with rfl | rfl <;> cases raw <;> cases triple <;> decide

theorem stripStringPrefix_opening {q : Char} (hq : q = sq ∨ q = dq) (raw triple : Bool) :
    stripStringPrefix (opening raw q triple) = quote q triple := by
  rcases hq with rfl | rfl <;> cases raw <;> cases triple <;> decide

theorem effStart_opening {T : Tables} {q : Char} (hq : q = sq ∨ q = dq) (raw triple : Bool) (s : Str) :
    effStart T s (opening raw q triple) = opening (raw || needsRaw T s) q triple := by
  rw [effStart, opening_isEmpty, isRawStart_opening hq]
  cases raw <;> cases needsRaw T s <;> rfl

def Opening (o : Str) : Prop := o = [] ∨ ∃ raw q triple, (q = sq ∨ q = dq) ∧ o = opening raw q triple

/-- one character of a non-raw literal; with the empty table: the doubling pass alone -/
def encC (tbl : List (Char × Str)) (c : Char) : Str := if c = bs then [bs, bs] else (tbl.lookup c).getD [c]

theorem encC_nil {c : Char} (h : c ≠ bs) : encC [] c = [c] := by simp [encC, h]

def escQ (e : Str) : Str := e.flatMap fun c => [bs, c]

theorem mem_escQ {d : Char} {e : Str} (h : d ∈ escQ e) : d ∈ bs :: e := by
  simp only [escQ, List.mem_flatMap, List.mem_cons, List.not_mem_nil, or_false] at h ⊢
  obtain ⟨b, hb, rfl | rfl⟩ := h
  · exact Or.inl rfl
  · exact Or.inr hb

/-- the three passes over a non-raw literal with closing quote `e` (double the backslashes, escape the
occurrences of `e`, translate control characters) as ONE recursion: at an occurrence of `e` comes the
escaped quote and the text goes on behind it -/
def enc (tbl : List (Char × Str)) (e : Str) : Str → Str
  | [] => []
  | c :: r =>
    if e.isPrefixOf (c :: r) then escQ e ++ enc tbl e (r.drop (e.length - 1)) else encC tbl c ++ enc tbl e r
termination_by x => x.length
decreasing_by all_goals simp only [List.length_drop, List.length_cons]; omega

/-- the shape of `enc`'s recursive call behind an occurrence of the closing quote -/
theorem append_drop_of_prefix {e l : Str} {a : Char} (h : e.isPrefixOf (a :: l) = true) (he : e ≠ []) :
    e ++ l.drop (e.length - 1) = a :: l := by
  obtain ⟨t, ht⟩ := List.isPrefixOf_iff_prefix.mp h
  obtain ⟨b, e, rfl⟩ := List.exists_cons_of_ne_nil he
  obtain ⟨rfl, rfl⟩ := List.cons.inj ht
  simp

theorem beq_false_of_not_mem_cons {a b : Char} {e : Str} (h : a ∉ b :: e) : (b == a) = false :=
  beq_eq_false_iff_ne.mpr fun e => h (e ▸ List.mem_cons_self ..)

theorem isPrefixOf_dbl {e : Str} (he : bs ∉ e) (y : Str) : e.isPrefixOf (y.flatMap (encC [])) = e.isPrefixOf y := by
  induction e generalizing y with
  | nil => simp
  | cons a e ih =>
    have hab := beq_false_of_not_mem_cons he
    cases y with
    | nil => rfl
    | cons c y =>
      by_cases hc : c = bs
      · simp [hc, encC, List.isPrefixOf, hab]
      · simp [encC_nil hc, List.isPrefixOf, ih (fun h => he (List.mem_cons_of_mem _ h))]

theorem flatMap_dbl_id {l : Str} (h : bs ∉ l) : l.flatMap (encC []) = l :=
  List.flatMap_eq_self _ l fun _ hc => encC_nil fun e => h (e ▸ hc)

/-- `tbl'` is the table the translation uses: it need only agree with `tbl` on the text, and is `[]` where
`_quote_paths` skips the translation -/
theorem passes_eq_enc {tbl tbl' : List (Char × Str)} {e : Str} (he : e ≠ []) (hbs : bs ∉ e)
    (hkey : ∀ c ∈ bs :: e, tbl'.lookup c = none) (x : Str) (hx : ∀ c ∈ x, tbl'.lookup c = tbl.lookup c) :
    translate tbl' (replaceGo e (escQ e) 0 (x.flatMap (encC []))) = enc tbl e x := by
  have hb : tbl'.lookup bs = none := hkey bs (List.mem_cons_self ..)
  fun_induction enc tbl e x with
  | case1 => rfl
  | case2 c r h ih =>
    -- an occurrence: the escaped quote passes through the translation, the text goes on behind it
    replace ih := ih fun x hx' => hx x (List.mem_cons_of_mem _ (List.mem_of_mem_drop hx'))
    rw [← append_drop_of_prefix h he, List.flatMap_append, flatMap_dbl_id hbs, replaceGo_occ he, translate_append,
      translate_id fun d hd => hkey d (mem_escQ hd), ih]
  | case3 c r h ih =>
    replace ih := ih fun x hx' => hx x (List.mem_cons_of_mem _ hx')
    have h' : e.isPrefixOf ((c :: r).flatMap (encC [])) = false := by
      rw [isPrefixOf_dbl hbs]; exact Bool.eq_false_iff.mpr h
    rw [List.flatMap_cons] at h' ⊢
    by_cases hc : c = bs
    · subst hc
      obtain ⟨a, e', rfl⟩ := List.exists_cons_of_ne_nil he
      -- the doubled backslash: the quote does not begin with `bs`, so either copy passes the replacement; `bs` is no key of `tbl'`
      have pass (y : Str) : replaceGo (a :: e') (escQ (a :: e')) 0 (bs :: y) = bs :: replaceGo (a :: e') (escQ (a :: e')) 0 y := by
        simp [replaceGo, List.isPrefixOf, beq_false_of_not_mem_cons hbs]
      simp [encC, pass, translate_cons, hb, ih]
    · rw [encC_nil hc, List.singleton_append] at h' ⊢
      rw [replaceGo, if_neg (Bool.eq_false_iff.mp h'), translate_cons, ih, encC, if_neg hc, hx c (List.mem_cons_self ..)]

theorem replaceAll_bs (x : Str) : replaceAll [bs] [bs, bs] x = x.flatMap (encC []) := by
  simp only [replaceAll, List.isEmpty_cons, Bool.false_eq_true, if_false, replaceGo_single]; rfl

/-- `_quote_paths` skips the translation when the candidate has no control character: the encoder all the same -/
theorem escBody_nonraw {T : Tables} (ok : TablesOk T) {q : Char} (hq : q = sq ∨ q = dq) (triple : Bool)
    (s0 : Str) {start : Str} (hraw : isRawStart start = false) (d : Bool) :
    escBody T s0 start (quote q triple) (s0 ++ dirTail d) = enc T.ctrl (quote q triple) (s0 ++ dirTail d) := by
  have hqc := quoteChar hq
  have he := quote_ne_nil q triple
  have hee := quote_isEmpty q triple
  have hbs : bs ∉ quote q triple := fun h => hqc.ne_bs (mem_quote h).symm
  simp only [escBody, hraw, hee, Bool.not_false, Bool.false_and, Bool.and_true, Bool.false_eq_true, if_false, if_true,
    replaceAll_bs, replaceAll_cond hee, show (quote q triple).flatMap (fun c => [bs, c]) = escQ (quote q triple) from rfl]
  cases hc : hasCtrl T s0 with
  | true =>
    refine passes_eq_enc he hbs (fun c hc => ok.notKey ?_) _ fun _ _ => rfl
    rcases List.mem_cons.mp hc with rfl | hc
    · decide
    · exact mem_quote hc ▸ hqc.notKey
  | false =>
    -- no character of the text is a key: the skipped translation is the one with the empty table
    have hno := any_append_dirTail (p := fun c => escapedCtrl.contains c) (by decide) (ok.hasCtrl_eq s0 ▸ hc) d
    rw [if_neg Bool.false_ne_true]
    exact (translate_id fun _ _ => rfl).symm.trans (passes_eq_enc (tbl' := []) he hbs (fun _ _ => rfl) _ fun c hc' =>
      (ok.notKey (Bool.eq_false_iff.mpr (List.any_eq_false.mp hno c hc'))).symm)

theorem escBody_raw {T : Tables} {s0 start end_ x : Str} (hbs : x.getLast? ≠ some bs)
    (hinf : isInfix end_ x = false) (hc : hasCtrl T s0 = false) (hraw : isRawStart start = true) :
    escBody T s0 start end_ x = x := by
  have : endsWith x [bs] = false := Bool.eq_false_iff.mpr fun h => hbs ((endsWith_bs_iff x).mp h)
  simp [escBody, hraw, this, hinf, hc]

theorem quoteOne_bare {T : Tables} (s : Str) (d ap : Bool) (hn : needsQuotes T s = false) (hc : hasCtrl T s = false) :
    quoteOne T s [] [] d ap = s ++ dirTail d ++ (if d then [] else [' ']) := by
  cases d <;> simp [quoteOne, autoQuote, hn, effStart, tailOf, dirTail, escBody, isRawStart, isInfix_nil, replaceAll, hc, wrap]

theorem quoteOne_quoted {T : Tables} (s : Str) {start0 e : Str} (hs : start0.isEmpty = false) (he : e.isEmpty = false) (d ap : Bool) :
    quoteOne T s start0 e d ap ++ (if ap then [] else e) =
      effStart T s start0 ++ (escBody T s (effStart T s start0) e (s ++ dirTail d) ++ (e ++ if !d && ap then [' '] else [])) := by
  cases ap <;> cases d <;> simp [quoteOne, autoQuote, wrap, tailOf, dirTail, hs, he]

theorem sp_all (d ap : Bool) : (if !d && ap then [' '] else ([] : Str)).all (· == ' ') = true := by
  cases d <;> cases ap <;> rfl

theorem TablesOk.encC_cases {T : Tables} (ok : TablesOk T) (c : Char) :
    (∃ e, encC T.ctrl c = [bs, e] ∧ simpleEscape e = some c) ∨
      (encC T.ctrl c = [c] ∧ c ≠ bs ∧ escapedCtrl.contains c = false) := by
  unfold encC
  by_cases h : c = bs
  · exact Or.inl ⟨bs, by simp [h], by subst h; decide⟩
  · rw [if_neg h]
    cases hl : T.ctrl.lookup c with
    | some v =>
      obtain ⟨_, e, rfl, he⟩ := ok.val hl
      exact Or.inl ⟨e, rfl, he⟩
    | none => exact Or.inr ⟨rfl, h, (ok.lookup_none_iff c).mp hl⟩

theorem enc_triple_lone {T : Tables} (ok : TablesOk T) {q : Char} (hq : q = sq ∨ q = dq) {d : Char} (r : Str) (hd : d ≠ q) :
    enc T.ctrl [q, q, q] (q :: d :: r) = q :: enc T.ctrl [q, q, q] (d :: r) := by
  rw [enc, if_neg (by simp [List.isPrefixOf, Ne.symm hd]), encC, if_neg (quoteChar hq).ne_bs,
    ok.notKey (quoteChar hq).notKey]; rfl

theorem enc_triple_head {T : Tables} (ok : TablesOk T) {q d : Char} (hqb : q ≠ bs) (r u : Str) (hd : d ≠ q) :
    (enc T.ctrl [q, q, q] (d :: r) ++ u).head? ≠ some q := by
  rw [enc, if_neg (by simp [List.isPrefixOf, Ne.symm hd])]
  rcases ok.encC_cases d with ⟨e, h, _⟩ | ⟨h, _⟩ <;> simp [h, Ne.symm hqb, hd]

theorem plain_chars {T : Tables} (ok : TablesOk T) {s : Str} (hn : needsQuotes T s = false) :
    s.any (fun c => bareUnsafe.contains c) = false := by
  simp only [needsQuotes, Bool.or_eq_false_iff] at hn
  obtain ⟨⟨h1, _⟩, h3⟩ := hn
  rw [List.any_eq_false] at h1 ⊢
  intro c hc hu
  have := List.all_eq_true.mp ok.unsafeSpecial c (List.contains_iff_mem.mp hu)
  simp only [Bool.or_eq_true, beq_iff_eq] at this
  rcases this with e | e
  · subst e
    rw [List.contains_iff_mem.mpr hc] at h3
    exact absurd h3 (by decide)
  · exact h1 c hc e

theorem plain_noCtrl {T : Tables} (ok : TablesOk T) {s : Str} (hn : needsQuotes T s = false) :
    s.any (fun c => escapedCtrl.contains c) = false := by
  have h := plain_chars ok hn
  rw [List.any_eq_false] at h ⊢
  exact fun c hc hk => h c hc (List.all_eq_true.mp (by decide : escapedCtrl.all (fun c => bareUnsafe.contains c) = true) c
    (List.contains_iff_mem.mp hk))

end PathQuote
