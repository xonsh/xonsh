/-
`cmds_to_specs`.  Every step that prepares a stage opens some resources, closes some of them again, and leaves the stage's
spec the owner of what is still open; so closing the specs — and, when `cmds_to_specs` raises, what only the exception
still holds — closes everything.
-/
import XonshVerif.Lemmas.FdLedgerEvents
namespace FdLedger

@[simp] theorem valRes_obj (r : Res) : valRes (some (.obj r)) = [r] := rfl
@[simp] theorem valRes_none : valRes none = [] := rfl
@[simp] theorem valRes_flag : valRes (some .stdoutFlag) = [] := rfl
@[simp] theorem valRes_two : valRes (some .two) = [] := rfl
@[simp] theorem valRes_sentinel : valRes (some .sentinel) = [] := rfl
@[simp] theorem valRes_fd : valRes (some .fd) = [] := rfl
@[simp] theorem optRes_some (r : Res) : optRes (some r) = [r] := rfl
@[simp] theorem optRes_none : optRes none = [] := rfl

@[simp] theorem chanRes_append (a b : List (Res × Res)) : chanRes (a ++ b) = chanRes a ++ chanRes b := by
  induction a with
  | nil => rfl
  | cons p a ih => simp [chanRes, ih]

theorem mem_held {s : Spec} {x : Res} : x ∈ s.held ↔ x ∈ valRes s.sin ∨ x ∈ valRes s.sout ∨ x ∈ valRes s.serr ∨
    x ∈ optRes s.capOut ∨ x ∈ optRes s.capErr ∨ x ∈ chanRes s.chans := by
  simp [Spec.held]

def heldAll (specs : List Spec) : List Res := specs.flatMap Spec.held

@[simp] theorem heldAll_nil : heldAll [] = [] := rfl
@[simp] theorem heldAll_cons (s : Spec) (rest : List Spec) : heldAll (s :: rest) = s.held ++ heldAll rest := by
  simp [heldAll]
@[simp] theorem heldAll_append (a b : List Spec) : heldAll (a ++ b) = heldAll a ++ heldAll b := by
  simp [heldAll]
theorem mem_heldAll {specs : List Spec} {x : Res} : x ∈ heldAll specs ↔ ∃ s ∈ specs, x ∈ s.held := by
  simp [heldAll]

theorem closeAll_eq (specs : List Spec) : closeAll specs = (heldAll specs).map .cls := by
  simp only [closeAll, heldAll, List.map_flatMap]; rfl

/-- `evs`, a piece of the preparation of one stage, takes its spec from `s` to `s'` and leaves the spec the owner of what
is open; `P` is a property of all that is held -/
structure Owns (P : Res → Prop) (evs : List CEv) (s s' : Spec) : Prop where
  idx : s'.idx = s.idx
  owned : runRes [] evs ⊆ s'.held
  mono : s.held ⊆ s'.held
  inv : (∀ x ∈ s.held, P x) → ∀ x ∈ s'.held, P x
  quiet : noSig evs = true

/-- ... and leaves `captured_stdout` / `captured_stderr` as they are: the steps before `_update_last_spec` -/
structure Prep (P : Res → Prop) (evs : List CEv) (s s' : Spec) : Prop extends Owns P evs s s' where
  capOut : s'.capOut = s.capOut
  capErr : s'.capErr = s.capErr

variable {P : Res → Prop}

theorem Owns.refl (s : Spec) : Owns P [] s s := ⟨rfl, by simp, fun _ h => h, id, rfl⟩

theorem Owns.comp {e1 e2 : List CEv} {s s1 s2 : Spec} (h1 : Owns P e1 s s1) (h2 : Owns P e2 s1 s2) :
    Owns P (e1 ++ e2) s s2 :=
  ⟨h2.idx.trans h1.idx,
   fun _ hx => (mem_runRes_append.1 hx).elim (fun h => h2.owned h) fun h => h2.mono (h1.owned h.1),
   fun _ hx => h2.mono (h1.mono hx), fun h => h2.inv (h1.inv h), by simp [h1.quiet, h2.quiet]⟩

theorem Prep.refl (s : Spec) : Prep P [] s s := ⟨.refl s, rfl, rfl⟩

theorem Prep.comp {e1 e2 : List CEv} {s s1 s2 : Spec} (h1 : Prep P e1 s s1) (h2 : Prep P e2 s1 s2) :
    Prep P (e1 ++ e2) s s2 :=
  ⟨h1.toOwns.comp h2.toOwns, h2.capOut.trans h1.capOut, h2.capErr.trans h1.capErr⟩

/-- the shape of every step: it opens `O`, then closes `C` -/
theorem Owns.step {s s' : Spec} (O C : List Res) (hi : s'.idx = s.idx) (hP : ∀ x ∈ O, P x) (mono : s.held ⊆ s'.held)
    (up : s'.held ⊆ s.held ++ O) (sc : ∀ x ∈ O, x ∈ s'.held ∨ x ∈ C) : Owns P (O.map .opn ++ C.map .cls) s s' :=
  ⟨hi, fun x hx => by
    have ⟨h, hc⟩ := (mem_runRes_append_closing (by simp)).1 hx
    exact (sc x (by simpa using mem_of_mem_runRes h)).resolve_right (by simpa using hc),
   mono, fun h x hx => (List.mem_append.1 (up hx)).elim (h x) (hP x), by simp⟩

theorem Owns.opening {s s' : Spec} (l : List Res) (hi : s'.idx = s.idx) (hP : ∀ x ∈ l, P x)
    (hh : ∀ x, x ∈ s'.held ↔ x ∈ s.held ∨ x ∈ l) : Owns P (l.map .opn) s s' := by
  simpa using Owns.step l [] hi hP (fun x h => (hh x).2 (.inl h)) (fun x h => by simpa using (hh x).1 h)
    fun x h => .inl ((hh x).2 (.inr h))

theorem assign_spec (cur new : Option Val) {o : List Res} (ho : valRes new ⊆ o) :
    let r := assign cur new
    (valRes cur ⊆ valRes r.slot ∧ valRes r.slot ⊆ valRes cur ++ o) ∧
    (r.raised = true ∧ new ≠ none ∧ r.evs = (valRes new).map .cls ∨
     r.raised = false ∧ r.evs = [] ∧ valRes new ⊆ valRes r.slot) := by
  cases new <;> cases cur <;> simp_all [assign]

theorem held_slots {s : Spec} {X Y Z : Option Val} {o : List Res}
    (hX : valRes s.sin ⊆ valRes X ∧ valRes X ⊆ valRes s.sin ++ o)
    (hY : valRes s.sout ⊆ valRes Y ∧ valRes Y ⊆ valRes s.sout ++ o)
    (hZ : valRes s.serr ⊆ valRes Z ∧ valRes Z ⊆ valRes s.serr ++ o) :
    s.held ⊆ ({ s with sin := X, sout := Y, serr := Z } : Spec).held ∧
    ({ s with sin := X, sout := Y, serr := Z } : Spec).held ⊆ s.held ++ o := by
  -- `held` is the append of the six slots: membership is settled slot by slot, by `hX`, `hY`, `hZ` for the three written
  simp only [List.subset_def, mem_held, List.mem_append] at *
  grind

/-- either every value offered is stored, or the one whose setter raised is closed; `o` bounds what is offered -/
theorem assign3_spec (s : Spec) (a b c : Option Val) {o : List Res} (ho : ∀ w ∈ [a, b, c], valRes w ⊆ o) :
    let st := assign3 s a b c
    st.spec.idx = s.idx ∧ st.spec.capOut = s.capOut ∧ st.spec.capErr = s.capErr ∧
    ((st.raised = true ∧ ∃ w ∈ [a, b, c], w ≠ none ∧ st.evs = (valRes w).map .cls) ∨
     (st.raised = false ∧ st.evs = [] ∧ ∀ w ∈ [a, b, c], valRes w ⊆ st.spec.held)) ∧
    s.held ⊆ st.spec.held ∧ st.spec.held ⊆ s.held ++ o := by
  have keep (v : Option Val) : valRes v ⊆ valRes v ∧ valRes v ⊆ valRes v ++ o := by simp
  obtain ⟨hx, hx'⟩ := assign_spec s.sin a (ho a (by simp))
  obtain ⟨hy, hy'⟩ := assign_spec s.sout b (ho b (by simp))
  obtain ⟨hz, hz'⟩ := assign_spec s.serr c (ho c (by simp))
  rcases hx' with ⟨r1, n1, e1⟩ | ⟨r1, e1, s1⟩
  · simp only [assign3, r1, if_true]
    exact ⟨trivial, trivial, trivial, .inl ⟨trivial, a, by simp, n1, e1⟩, held_slots hx (keep _) (keep _)⟩
  · rcases hy' with ⟨r2, n2, e2⟩ | ⟨r2, e2, s2⟩
    · simp only [assign3, r1, r2, e1, if_true, if_false, Bool.false_eq_true, List.nil_append]
      exact ⟨trivial, trivial, trivial, .inl ⟨trivial, b, by simp, n2, e2⟩, held_slots hx hy (keep _)⟩
    · simp only [assign3, r1, r2, e1, e2, if_false, Bool.false_eq_true, List.nil_append]
      refine ⟨trivial, trivial, trivial, ?_, held_slots hx hy hz⟩
      rcases hz' with ⟨r3, n3, e3⟩ | ⟨r3, e3, s3⟩
      · exact .inl ⟨r3, c, by simp, n3, e3⟩
      · refine .inr ⟨r3, e3, ?_⟩
        simp only [List.subset_def, mem_held, List.mem_cons, List.not_mem_nil, or_false, forall_eq_or_imp, forall_eq]
        exact ⟨fun h => .inl (s1 h), fun h => .inr (.inl (s2 h)), fun h => .inr (.inr (.inl (s3 h)))⟩

/-- a redirect offers one value, carrying `o` (the file just opened, or nothing), to one or two setters: the first reached
stores or closes it.  `evs` is a variable so that every redirect form of `applyRedir` fits by `rfl`. -/
theorem assign3_prep (s : Spec) (a b c : Option Val) (o : List Res) {evs : List CEv}
    (he : evs = o.map .opn ++ (assign3 s a b c).evs) (ho : ∀ w ∈ [a, b, c], w = none ∨ valRes w = o)
    (hne : ∃ w ∈ [a, b, c], w ≠ none) (hP : ∀ x ∈ o, P x) : Prep P evs s (assign3 s a b c).spec := by
  subst he
  obtain ⟨h1, h2, h3, h6, h4, h5⟩ := assign3_spec s a b c (o := o) fun w hw => by rcases ho w hw with rfl | e <;> simp [*]
  rcases h6 with ⟨_, w, hw, hwn, he⟩ | ⟨_, he, hs⟩
  · rw [he, (ho w hw).resolve_left hwn]
    exact ⟨.step o o h1 hP h4 h5 fun _ hx => .inr hx, h2, h3⟩
  · obtain ⟨w, hw, hwn⟩ := hne
    rw [he]
    exact ⟨.step o [] h1 hP h4 h5 fun x hx => .inl (hs w hw ((ho w hw).resolve_left hwn ▸ hx)), h2, h3⟩

theorem applyRedir_prep {k j : Nat} (hP : P ⟨k, .file j⟩) (s : Spec) (r : Redir) :
    Prep P (applyRedir k j s r).evs s (applyRedir k j s r).spec := by
  cases r with
  | file t o =>
    cases o with
    | false => exact .refl s
    | true => cases t <;> exact assign3_prep s _ _ _ [⟨k, .file j⟩] rfl (by simp) (by simp) (by simpa using hP)
  | _ => exact assign3_prep s _ _ _ [] rfl (by simp) (by simp) (by simp)

theorem applyRedirs_prep {k : Nat} (hP : ∀ j, P ⟨k, .file j⟩) (rs : List Redir) : ∀ (j : Nat) (s : Spec),
    Prep P (applyRedirs k j s rs).evs s (applyRedirs k j s rs).spec := by
  induction rs with
  | nil => exact fun _ s => .refl s
  | cons r rs ih =>
    intro j s
    simp only [applyRedirs]
    split
    · exact applyRedir_prep (hP j) s r
    · exact (applyRedir_prep (hP j) s r).comp (ih (j + 1) _)

theorem build_prep {k : Nat} (hP : ∀ j, P ⟨k, .file j⟩) (st : Stage) :
    Prep P (build k st).evs (Spec.new k st) (build k st).spec := by
  simp only [build]
  split <;> exact applyRedirs_prep hP st.redirs 0 _

theorem Spec.new_held (k : Nat) (st : Stage) : (Spec.new k st).held = [] := rfl

def IsFileOf (k : Nat) (x : Res) : Prop := x.stage = k ∧ ∃ j, x.what = .file j

theorem buildAll_spec (stages : List Stage) : ∀ k,
    let b := buildAll k stages
    runRes [] b.evs ⊆ heldAll (b.specs ++ b.failed.toList) ∧ noSig b.evs = true ∧
    b.specs.map (·.idx) = List.range' k b.specs.length ∧
    ∀ s ∈ b.specs ++ b.failed.toList, (∀ x ∈ s.held, IsFileOf s.idx x) ∧ s.capOut = none ∧ s.capErr = none := by
  induction stages with
  | nil => intro k; simp [buildAll]
  | cons st rest ih =>
    intro k
    have hb := build_prep (P := IsFileOf k) (fun j => ⟨rfl, j, rfl⟩) st
    have hs : (∀ x ∈ (build k st).spec.held, IsFileOf (build k st).spec.idx x) ∧ (build k st).spec.capOut = none ∧
        (build k st).spec.capErr = none :=
      ⟨by rw [hb.idx]; exact hb.inv (by simp [Spec.new_held]), hb.capOut, hb.capErr⟩
    obtain ⟨i1, i2, i3, i4⟩ := ih (k + 1)
    simp only [buildAll]
    split
    · exact ⟨by simpa using hb.owned, hb.quiet, rfl, by simpa using hs⟩
    · refine ⟨by simpa using residue_append_sub hb.owned i1, by simp [hb.quiet, i2], ?_, ?_⟩
      · simp [i3, List.range'_succ, hb.idx, Spec.new]
      · simpa [List.forall_mem_cons] using ⟨hs, by simpa using i4⟩

/-- a phase of `cmds_to_specs` after the builds, from `specs` to `specs'`: it only opens; `extra` is the pipe not attached
yet when a setter raised, `I` what is known of every spec -/
structure OwnsAll (I : Spec → Prop) (evs : List CEv) (specs specs' : List Spec) (extra : List Res) : Prop where
  idx : specs'.map (·.idx) = specs.map (·.idx)
  owned : runRes [] evs ⊆ heldAll specs' ++ extra
  mono : heldAll specs ⊆ heldAll specs'
  inv : (∀ s ∈ specs, I s) → ∀ s ∈ specs', I s
  quiet : noSig evs = true
  noClose : closes evs = []

variable {I : Spec → Prop}

theorem OwnsAll.refl (specs : List Spec) : OwnsAll I [] specs specs [] := ⟨rfl, by simp, fun _ h => h, id, rfl, rfl⟩

theorem OwnsAll.cons {e es : List CEv} {s s' : Spec} {ss ss' : List Spec} {ex : List Res} (h : Owns P e s s')
    (hc : closes e = []) (hI : I s → I s') (H : OwnsAll I es ss ss' ex) : OwnsAll I (e ++ es) (s :: ss) (s' :: ss') ex :=
  ⟨by simp [h.idx, H.idx], by simpa using residue_append_sub h.owned H.owned,
   fun x hx => by simp only [heldAll_cons, List.mem_append] at hx ⊢; exact hx.imp (h.mono ·) (H.mono ·),
   by simpa only [List.forall_mem_cons] using fun hs => ⟨hI hs.1, H.inv hs.2⟩, by simp [h.quiet, H.quiet],
   by simp [hc, H.noClose]⟩

theorem OwnsAll.orphan {specs specs' : List Spec} (H : OwnsAll I [] specs specs' []) {l ex : List Res} (h : l ⊆ ex) :
    OwnsAll I (l.map .opn) specs specs' ex :=
  { H with owned := fun _ hx => List.mem_append_right _ (h (by simpa using mem_of_mem_runRes hx)), quiet := by simp,
           noClose := by simp }

theorem OwnsAll.head {evs : List CEv} {s s1 : Spec} {ss specs' : List Spec} {ex : List Res}
    (H : OwnsAll I evs (s1 :: ss) specs' ex) (h : Owns P [] s s1) (hI : I s → I s1) : OwnsAll I evs (s :: ss) specs' ex :=
  { H with idx := by simp [H.idx, h.idx]
           mono := fun x hx => H.mono (by simp only [heldAll_cons, List.mem_append] at hx ⊢; exact hx.imp_left (h.mono ·))
           inv := fun hs => H.inv (by simpa only [List.forall_mem_cons] using ⟨hI (hs s (by simp)), fun t ht => hs t (by simp [ht])⟩) }

theorem OwnsAll.after {a evs : List CEv} {specs specs' : List Spec} {ex : List Res} (H : OwnsAll I evs specs specs' ex)
    (ha : runRes [] a ⊆ heldAll specs) : runRes [] (a ++ evs) ⊆ heldAll specs' ++ ex := fun _ hx =>
  (mem_runRes_append.1 hx).elim (fun h => H.owned h) fun h => List.mem_append_left _ (H.mono (ha h.1))

def StageOwn (s : Spec) : Prop := ∀ y ∈ s.held, y.stage = s.idx

def Plain (s : Spec) : Prop := StageOwn s ∧ s.capOut = none ∧ s.capErr = none

theorem Owns.stageOwn {e : List CEv} {s s' : Spec} (h : Owns (·.stage = s.idx) e s s') (hs : StageOwn s) : StageOwn s' :=
  fun y hy => h.idx ▸ h.inv hs y hy

theorem Prep.plain {e : List CEv} {s s' : Spec} (h : Prep (·.stage = s.idx) e s s') (hs : Plain s) : Plain s' :=
  ⟨h.stageOwn hs.1, h.capOut.trans hs.2.1, h.capErr.trans hs.2.2⟩

/-- the upstream side of a `|` only exchanges values that are no file objects (sentinel, pipe fd, nothing); by cases on
whether stderr / stdout hold the sentinel and whether stdout is free -/
theorem wireUp_prep (up : Spec) : Prep P [] up (wireUp up).1 := by
  have : (wireUp up).1.held = up.held ∧ (wireUp up).1.idx = up.idx ∧ (wireUp up).1.capOut = up.capOut ∧
      (wireUp up).1.capErr = up.capErr := by
    by_cases h1 : up.serr = some .sentinel <;> by_cases h2 : up.sout = some .sentinel <;> cases h3 : up.sout <;>
      simp_all [wireUp, Spec.held]
  exact ⟨.opening [] this.2.1 (by simp) (by simp [this.1]), this.2.2.1, this.2.2.2⟩

theorem held_with_sin_fd (dn : Spec) (h : dn.sin.isSome = false) : ({ dn with sin := some Val.fd } : Spec).held = dn.held := by
  cases hs : dn.sin with
  | none => simp [Spec.held, hs]
  | some v => simp [hs] at h

theorem held_with_chan (u : Spec) (pr pw : Res) :
    ({ u with chans := u.chans ++ [(pr, pw)] } : Spec).held = u.held ++ [pw, pr] := by
  simp [Spec.held, chanRes]

theorem wire_cases (up dn : Spec) (rest : List Spec) :
    wire up (dn :: rest) = ⟨[.opn ⟨up.idx, .pipeR⟩, .opn ⟨up.idx, .pipeW⟩], (wireUp up).1 :: dn :: rest,
      [⟨up.idx, .pipeW⟩, ⟨up.idx, .pipeR⟩], true⟩ ∨
    dn.sin.isSome = false ∧ wire up (dn :: rest) =
      ⟨[.opn ⟨up.idx, .pipeR⟩, .opn ⟨up.idx, .pipeW⟩] ++ (wire { dn with sin := some .fd } rest).evs,
       { (wireUp up).1 with chans := (wireUp up).1.chans ++ [(⟨up.idx, .pipeR⟩, ⟨up.idx, .pipeW⟩)] } ::
         (wire { dn with sin := some .fd } rest).specs,
       (wire { dn with sin := some .fd } rest).orphan, (wire { dn with sin := some .fd } rest).raised⟩ := by
  simp only [wire]
  split
  · exact .inl rfl
  · split
    · exact .inl rfl
    · rename_i h; exact .inr ⟨by simpa using h, rfl⟩

theorem wire_owns (rest : List Spec) : ∀ up : Spec,
    let w := wire up rest
    OwnsAll Plain w.evs (up :: rest) w.specs w.orphan ∧
    (∃ k, w.orphan = if w.raised then [⟨k, .pipeW⟩, ⟨k, .pipeR⟩] else []) ∧
    (w.raised = false → ∀ i ∈ ((up :: rest).map (·.idx)).dropLast, (⟨i, .pipeR⟩ : Res) ∈ opensOf w.evs) := by
  induction rest with
  | nil => exact fun up => ⟨.refl _, ⟨0, rfl⟩, by simp [wire]⟩
  | cons dn rest ih =>
    intro up
    have hu : Prep (·.stage = up.idx) [] up (wireUp up).1 := wireUp_prep up
    rcases wire_cases up dn rest with e | ⟨hsin, e⟩ <;> rw [e]
    · exact ⟨(OwnsAll.cons hu.toOwns rfl hu.plain (.refl _)).orphan (l := [⟨up.idx, .pipeR⟩, ⟨up.idx, .pipeW⟩]) (by simp),
        ⟨up.idx, rfl⟩, by simp⟩
    · have hdn : Prep (·.stage = dn.idx) [] dn { dn with sin := some .fd } :=
        ⟨.opening [] rfl (by simp) (by simp [held_with_sin_fd dn hsin]), rfl, rfl⟩
      obtain ⟨i1, i2, i3⟩ := ih { dn with sin := some .fd }
      have hat : Prep (·.stage = up.idx) [.opn ⟨up.idx, .pipeR⟩, .opn ⟨up.idx, .pipeW⟩] up
          { (wireUp up).1 with chans := (wireUp up).1.chans ++ [(⟨up.idx, .pipeR⟩, ⟨up.idx, .pipeW⟩)] } :=
        hu.comp ⟨.opening [⟨up.idx, .pipeR⟩, ⟨up.idx, .pipeW⟩] rfl (by simp)
          fun x => by simp [held_with_chan, or_comm], rfl, rfl⟩
      refine ⟨.cons hat.toOwns rfl hat.plain (i1.head hdn.toOwns hdn.plain), i2, fun hr i hm => ?_⟩
      rcases List.mem_cons.1 hm with rfl | hm
      · simp
      · simpa using Or.inr (i3 hr i hm)

theorem noSig_capPipe (k : Nat) (e : Bool) : noSig (capPipe k e) = true := rfl

theorem capOutSide_owns {k : Nat} (s : Spec) (hk : s.idx = k) (hco : s.capOut = none) :
    Owns (·.stage = k) (capOutSide s).1 s (capOutSide s).2 ∧ (capOutSide s).2.capErr = s.capErr := by
  unfold capOutSide
  split
  · exact ⟨.refl s, rfl⟩
  · -- `wrapW` goes into the stdout slot, empty in this branch, `wrapR` into `capOut`, empty by `hco`, the pipe onto `chans`:
    -- no slot loses what it held, and `grind` has only the order of the disjuncts to settle
    have hso : s.sout = none := by simp_all
    exact ⟨.opening [⟨s.idx, .capR false⟩, ⟨s.idx, .capW false⟩, ⟨s.idx, .wrapW false⟩, ⟨s.idx, .wrapR false⟩] rfl
      (by simp [hk]) fun x => by simp [mem_held, chanRes, hso, hco]; grind, rfl⟩

theorem capErrSide_owns {k : Nat} (c : Capture) (s : Spec) (hk : s.idx = k) (hce : s.capErr = none) :
    Owns (·.stage = k) (capErrSide c s).1 s (capErrSide c s).2 ∧
    ((capErrSide c s).2.serr = some .stdoutFlag → (capErrSide c s).2.capErr = none) := by
  unfold capErrSide
  split
  · exact ⟨.refl s, fun _ => hce⟩
  · -- as in `capOutSide_owns`, with the stderr slot and `capErr`
    have hse : s.serr = none := by simp_all
    exact ⟨.opening [⟨s.idx, .capR true⟩, ⟨s.idx, .capW true⟩, ⟨s.idx, .wrapW true⟩, ⟨s.idx, .wrapR true⟩] rfl
      (by simp [hk]) fun x => by simp [mem_held, chanRes, hse, hce]; grind, by simp⟩

theorem fixOutToErr_owns (s : Spec) : Owns P [] s (fixOutToErr s) ∧ (fixOutToErr s).serr = s.serr ∧
    (fixOutToErr s).capErr = s.capErr := by
  unfold fixOutToErr
  split
  · exact ⟨.opening [] rfl (by simp) fun x => by simp_all [mem_held], rfl, rfl⟩
  · exact ⟨.refl s, rfl, rfl⟩

theorem fixErrToOut_owns (s : Spec) (h : s.serr = some .stdoutFlag → s.capErr = none) : Owns P [] s (fixErrToOut s) := by
  unfold fixErrToOut
  split
  · exact .opening [] rfl (by simp) fun x => by simp_all [mem_held]
  · exact .refl s

theorem setThreading_prep (c : Capture) (ca : Bool) (s : Spec) : Prep P [] s (setThreading c ca s) := by
  unfold setThreading
  split
  · exact ⟨.opening [] rfl (by simp) (by simp [mem_held]), rfl, rfl⟩
  · exact .refl s

theorem updateLast_owns (c : Capture) (ca : Bool) (s : Spec) (hco : s.capOut = none) (hce : s.capErr = none) :
    Owns (·.stage = s.idx) (updateLast c ca s).1 s (updateLast c ca s).2 := by
  have h0 : Prep (·.stage = s.idx) [] s (setThreading c ca s) := setThreading_prep c ca s
  unfold updateLast
  split
  · exact .refl s
  · split
    · exact h0.toOwns
    · obtain ⟨h1, e1⟩ := capOutSide_owns _ h0.idx (h0.capOut.trans hco)
      obtain ⟨h2, e2⟩ := capErrSide_owns c _ (h1.idx.trans h0.idx) (e1.trans (h0.capErr.trans hce))
      obtain ⟨h3, e3, e4⟩ := fixOutToErr_owns (P := (·.stage = s.idx)) (capErrSide c (capOutSide (setThreading c ca s)).2).2
      simpa [makeCaptured] using h0.toOwns.comp ((h1.comp h2).comp (h3.comp (fixErrToOut_owns _ (by rw [e3, e4]; exact e2))))

theorem closes_updateLast (c : Capture) (ca : Bool) (s : Spec) : closes (updateLast c ca s).1 = [] := by
  simp [updateLast, makeCaptured, capOutSide, capErrSide, apply_ite Prod.fst, apply_ite closes, capPipe]

theorem mapLast_owns (c : Capture) (ca : Bool) (specs : List Spec) (h : ∀ s ∈ specs, Plain s) :
    OwnsAll StageOwn (mapLast (updateLast c ca) specs).1 specs (mapLast (updateLast c ca) specs).2 [] := by
  induction specs with
  | nil => exact .refl []
  | cons s rest ih =>
    have hu := updateLast_owns c ca s (h s (by simp)).2.1 (h s (by simp)).2.2
    cases rest with
    | nil => simpa [mapLast] using OwnsAll.cons hu (closes_updateLast c ca s) hu.stageOwn (.refl [])
    | cons t rest => exact .cons (Owns.refl (P := fun _ => True) s) rfl id (ih fun u hu => h u (by simp [hu]))

/-- what can stay open while the exception is held: redirect files of ONE stage (the one whose build raised), or the
one pipe that was not yet attached -/
def HeldShape (k : Nat) (x : Res) : Prop := x.stage = k ∧ ((∃ j, x.what = .file j) ∨ x.what = .pipeR ∨ x.what = .pipeW)

/-- what `cmds_to_specs` guarantees: when it succeeds every resource left open is held by a returned spec (and the read end of
every non-last stage's pipe is open: what `pipeline_leaks` / `C09_leak_exact` rest on); when it raises everything is closed again
once the exception has been dropped -/
structure Sound (p : Prepared) : Prop where
  quiet : noSig p.evs = true ∧ noSig p.onRelease = true
  ok : p.why = .ok → runRes [] p.evs ⊆ heldAll p.specs ∧ (p.specs.map (·.idx)).Nodup ∧
    (∀ s ∈ p.specs, StageOwn s) ∧ ∀ i ∈ (p.specs.map (·.idx)).dropLast, (⟨i, .pipeR⟩ : Res) ∈ runRes [] p.evs
  fail : p.why ≠ .ok → runRes [] (p.evs ++ p.onRelease) = [] ∧ ∃ k, ∀ x ∈ closes p.onRelease, HeldShape k x

/-- `cmds_to_specs` raises after `opening`; `extra` (the failed spec's files, the unattached pipe) is held by nothing but
the exception and closed at once (`own`: the `closeOwn` repair) or when the exception is dropped.  With `extra = []` either
branch is the same record: the branches that do not depend on `closeOwn` take `own := false`. -/
theorem Sound.of_fail (own : Bool) {opening : List CEv} {specs : List Spec} {extra : List Res} {why : Why}
    (hq : noSig opening = true) (hcov : runRes [] opening ⊆ heldAll specs ++ extra) (hex : ∃ k, ∀ x ∈ extra, HeldShape k x)
    (hw : why ≠ .ok := by decide) :
    Sound (if own then ⟨opening ++ extra.map .cls ++ closeAll specs, specs, why, []⟩
      else ⟨opening ++ closeAll specs, specs, why, extra.map .cls⟩) := by
  cases own
  · exact ⟨⟨by simp [hq, closeAll_eq], by simp⟩, fun h => absurd h hw, fun _ =>
      ⟨by simp only [Bool.false_eq_true, if_false, closeAll_eq, List.append_assoc, ← List.map_append]
          exact residue_nil_of_closed (by simp) fun x hx => by simpa using hcov hx, by simpa using hex⟩⟩
  · exact ⟨⟨by simp [hq, closeAll_eq], rfl⟩, fun h => absurd h hw, fun _ =>
      ⟨by simp only [if_true, closeAll_eq, List.append_assoc, List.append_nil, ← List.map_append]
          exact residue_nil_of_closed (by simp) fun x hx => by simpa [or_comm] using hcov hx, ⟨0, by simp⟩⟩⟩

theorem cmdsToSpecs_sound (v : Variant) (c : Cmd) : Sound (cmdsToSpecs v c) := by
  have hb := buildAll_spec c.stages 0
  unfold cmdsToSpecs
  generalize buildAll 0 c.stages = b at hb
  obtain ⟨bevs, specs, failed⟩ := b
  obtain ⟨b1, b2, b3, b4⟩ := hb
  dsimp only at b1 b2 b3 b4 ⊢
  cases failed with
  | some f =>
    -- a build raised
    exact .of_fail v.closeOwn b2 (by simpa using b1)
      ⟨f.idx, fun x hx => have h := (b4 f (by simp)).1 x hx; ⟨h.1, .inl h.2⟩⟩
  | none =>
    simp only [Option.toList_none, List.append_nil] at b1 b4
    cases specs with
    | nil =>
      -- no stage at all
      simpa [closeAll] using Sound.of_fail false (specs := []) (extra := []) (why := .empty) b2 b1 ⟨0, by simp⟩
    | cons s0 rest =>
      obtain ⟨w, ⟨k, w2⟩, w3⟩ := wire_owns rest s0
      have hplain := w.inv fun s hs => ⟨fun x hx => ((b4 s hs).1 x hx).1, (b4 s hs).2⟩
      have hbw := w.after b1
      have hq : noSig (bevs ++ (wire s0 rest).evs) = true := by simp [b2, w.quiet]
      dsimp only
      split
      next hr =>
        -- a setter raised in the `|` loop
        exact .of_fail v.closeOwn hq hbw ⟨k, by simp [w2, hr, HeldShape]⟩
      next hr =>
        rw [w2, if_neg hr] at hbw
        split
        · -- a pipe sentinel is left over
          exact .of_fail false hq hbw ⟨0, by simp⟩
        · split
          · -- an unthreadable alias in a pipeline
            exact .of_fail false hq hbw ⟨0, by simp⟩
          · -- it succeeds: `_update_last_spec`
            have m := mapLast_owns c.capture c.captureAlways _ hplain
            have hidx := m.idx.trans w.idx
            refine ⟨⟨by simp [b2, w.quiet, m.quiet], rfl⟩, fun _ => ⟨fun x hx => by simpa using m.after (by simpa using hbw) hx, ?_,
              m.inv fun s hs => (hplain s hs).1, fun i hi => ?_⟩, fun h => absurd rfl h⟩
            · rw [hidx, b3]; exact List.nodup_range'
            · -- opened in the `|` loop, closed neither there nor by `_update_last_spec`
              rw [hidx] at hi
              rw [runRes_append, runRes_append]
              exact mem_runRes_of_not_closed (by simp [m.noClose]) (.inl (mem_runRes_of_not_closed (by simp [w.noClose])
                (.inr (w3 (by simpa using hr) i hi))))

end FdLedger
