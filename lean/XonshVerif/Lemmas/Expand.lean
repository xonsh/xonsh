/-
C04 — four facts about `expand`.  "A value with no `$` and no tilde-prefix is not touched" (`C04_expand_id`) rests on three:
`expandvars` copies text without `$` (`expandGo_noDollar`), `joinWith` undoes `splitOn` (`joinWith_splitOn`), `expanduser` needs
a leading tilde (`expanduser_id`).  The fourth, `expandvars` puts back what it cannot look up (`expandGo_unknown`), is
`C04_expandvars_unknown`.
-/
import XonshVerif.Model.Expand
namespace Expand
open PyStr (Str)

theorem expandGo_noDollar (e : Env) : ∀ (s : Str), ¬ 36 ∈ s → expandGo e 0 s = s := by
  intro s
  induction s with
  | nil => intro _; rfl
  | cons c cs ih => intro h; rw [List.mem_cons, not_or] at h; simp [expandGo, Ne.symm h.1, ih h.2]

theorem expandGo_unknown (e : Env) (hu : ∀ n, e.lookup n = none) (s : Str) (k : Nat) : expandGo e k s = s.drop k := by
  -- at a match `36 :: cs.take n` goes back in front of `cs.drop n`
  fun_induction expandGo e k s <;> simp_all

theorem splitOn_ne_nil (sep : Nat) (s : Str) : splitOn sep s ≠ [] := by
  fun_induction splitOn sep s <;> simp_all

theorem joinWith_cons_cons (sep : Nat) (p q : Str) (ps : List Str) :
    joinWith sep (p :: q :: ps) = p ++ sep :: joinWith sep (q :: ps) := rfl

theorem joinWith_splitOn (sep : Nat) : ∀ s : Str, joinWith sep (splitOn sep s) = s := by
  intro s
  induction s with
  | nil => rfl
  | cons c cs ih =>
    rw [splitOn]
    obtain ⟨p, ps, hs⟩ := List.exists_cons_of_ne_nil (splitOn_ne_nil sep cs)
    rw [hs] at ih ⊢
    split
    · next hc => rw [joinWith_cons_cons, ih, hc]; rfl
    · cases ps with
      | nil => exact congrArg (c :: ·) ih
      | cons q qs => rw [joinWith_cons_cons] at ih ⊢; exact congrArg (c :: ·) ih

theorem expanduser_id (e : Env) (s : Str) (h : (s.head? == some 126) = false) : expanduser e s = s := by
  unfold expanduser
  split
  · simp at h
  · rfl

end Expand
