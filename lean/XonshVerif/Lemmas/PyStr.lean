/-
C04 — the string-literal machine of `Model/PyStr.lean`.  `Reads` says what a piece of a literal's body is read as when
the machine meets it in plain text; it is closed under concatenation, so the lemmas are about one rendered character:
hex escapes over a digit list, the other escapes from the tables of `stepB` and `stepN`.  A raw literal copies, by the
invariant `owed`.
-/
import XonshVerif.Model.PyStr
namespace PyStr

theorem run_cons (cfg : LitCfg) (st : St) (c : Nat) (cs : Str) :
    run cfg st (c :: cs) =
      match step cfg st c with
      | none => none
      | some (out, st') => (run cfg st' cs).map (out ++ ·) := rfl

theorem run_backslash (cfg : LitCfg) (t : Str) : run cfg (.n 0) (92 :: t) = run cfg .b t := by
  simp [run_cons, step, stepN]

theorem normNlGo_id (t : Str) (h : ¬ 13 ∈ t) : normNlGo false t = t := by
  induction t with
  | nil => rfl
  | cons c cs ih => rw [List.mem_cons, not_or] at h; simp [normNlGo, Ne.symm h.1, ih h.2]

/-- `text`, met in plain text inside a literal's body, is read as `v` and leaves the machine in plain text; it has no CR
for the reader's newline normalisation to touch -/
structure Reads (cfg : LitCfg) (text v : Str) : Prop where
  noCR : ¬ 13 ∈ text
  reads : ∀ rest, run cfg (.n 0) (text ++ rest) = (run cfg (.n 0) rest).map (v ++ ·)

theorem Reads.nil (cfg : LitCfg) : Reads cfg [] [] := ⟨nofun, fun rest => by simp⟩

theorem Reads.append {cfg : LitCfg} {a v b w : Str} (h₁ : Reads cfg a v) (h₂ : Reads cfg b w) :
    Reads cfg (a ++ b) (v ++ w) := by
  refine ⟨fun h => (List.mem_append.mp h).elim h₁.noCR h₂.noCR, fun rest => ?_⟩
  rw [List.append_assoc, h₁.reads, h₂.reads, Option.map_map]
  simp [Function.comp_def]

theorem Reads.evalBody {raw f : Bool} {q : Quote} {body v : Str} (h : Reads (mkCfg raw f q) body v) :
    evalBody raw f q body = some v := by
  rw [PyStr.evalBody, normNl, normNlGo_id _ h.noCR, ← List.append_nil body, h.reads]
  exact congrArg some (List.append_nil v)

theorem hexVal_hexChar : ∀ d < 16, hexVal (hexChar d) = some d := by decide

theorem run_hexDigit (cfg : LitCfg) (need acc d : Nat) (t : Str) (hd : d < 16) :
    run cfg (.h (need + 2) acc) (hexChar d :: t) = run cfg (.h (need + 1) (acc * 16 + d)) t := by
  simp [run_cons, step, hexVal_hexChar d hd]

theorem run_hexDigits (cfg : LitCfg) (rest : Str) (ds : List Nat) : ∀ (d acc : Nat), (∀ x ∈ d :: ds, x < 16) →
    (d :: ds).foldl (· * 16 + ·) acc ≤ 1114111 →
    run cfg (.h (ds.length + 1) acc) (hexChar d :: (ds.map hexChar ++ rest)) =
      (run cfg (.n 0) rest).map ((d :: ds).foldl (· * 16 + ·) acc :: ·) := by
  induction ds with
  | nil =>                 -- the last digit: the value is emitted, being a code point
    intro d acc hd hv
    rw [List.foldl_cons, List.foldl_nil] at hv
    simp [run_cons, step, hexVal_hexChar d (hd d (List.mem_cons_self ..)), hv]
  | cons d' ds ih =>
    intro d acc hd hv
    rw [List.forall_mem_cons] at hd
    rw [List.length_cons, List.map_cons, List.cons_append, run_hexDigit cfg _ acc d _ hd.1, ih d' _ hd.2 hv]
    rfl

theorem hexChar_ge (d : Nat) : 48 ≤ hexChar d := by
  unfold hexChar; split <;> omega

/-- `\xhh`, `\uhhhh`, `\Uhhhhhhhh` -/
theorem reads_hexLetter (cfg : LitCfg) (hraw : cfg.raw = false) (x n : Nat)
    (hx : x = 120 ∧ n = 2 ∨ x = 117 ∧ n = 4 ∨ x = 85 ∧ n = 8) (d : Nat) (ds : List Nat) (hn : ds.length + 1 = n)
    (hd : ∀ y ∈ d :: ds, y < 16) (c : Nat) (hv : (d :: ds).foldl (· * 16 + ·) 0 = c) (hc : c ≤ 1114111) :
    Reads cfg (92 :: x :: (d :: ds).map hexChar) [c] := by
  constructor
  · simp only [List.mem_cons, List.mem_map]
    rintro (e | e | ⟨y, -, e⟩)
    · omega
    · omega
    · have := hexChar_ge y; omega
  · intro rest
    have := run_hexDigits cfg rest ds d 0 hd (hv ▸ hc)
    rw [hv] at this
    simp only [List.cons_append, List.map_cons, List.nil_append]
    rw [run_backslash, ← this, hn]
    rcases hx with ⟨rfl, rfl⟩ | ⟨rfl, rfl⟩ | ⟨rfl, rfl⟩ <;> simp [run_cons, step, stepB, hraw, simpleEsc, isOct]

theorem reads_hexEsc (cfg : LitCfg) (hraw : cfg.raw = false) (c : Nat) (h : c ≤ 1114111) : Reads cfg (hexEsc c) [c] := by
  -- one more digit read: the accumulator goes from `c / (16 m)` to `c / m`
  have e : ∀ m M, M = m * 16 → c / M * 16 + c / m % 16 = c / m := fun m M hM => by
    rw [hM, ← Nat.div_div_eq_div_mul]; omega
  unfold hexEsc
  split
  · exact reads_hexLetter cfg hraw 120 2 (.inl ⟨rfl, rfl⟩) (c / 16) [c % 16] rfl (by simp; omega) c
      (by simp only [List.foldl_cons, List.foldl_nil, Nat.zero_mul, Nat.zero_add, Nat.div_add_mod']) h
  · split
    · exact reads_hexLetter cfg hraw 117 4 (.inr (.inl ⟨rfl, rfl⟩)) (c / 4096) [c / 256 % 16, c / 16 % 16, c % 16] rfl
        (by simp; omega) c
        (by simp only [List.foldl_cons, List.foldl_nil, Nat.zero_mul, Nat.zero_add, e, Nat.reduceMul, Nat.div_add_mod'])
        h
    · exact reads_hexLetter cfg hraw 85 8 (.inr (.inr ⟨rfl, rfl⟩)) (c / 268435456)
        [c / 16777216 % 16, c / 1048576 % 16, c / 65536 % 16, c / 4096 % 16, c / 256 % 16, c / 16 % 16, c % 16] rfl
        (by simp; omega) c
        (by simp only [List.foldl_cons, List.foldl_nil, Nat.zero_mul, Nat.zero_add, e, Nat.reduceMul, Nat.div_add_mod'])
        h

theorem stepN_plain (cfg : LitCfg) (c : Nat) (h92 : c ≠ 92) (hq : c ≠ cfg.qc)
    (hnl : ¬ (c = 10 ∧ cfg.triple = false)) (hlb : ¬ (cfg.f = true ∧ c = 123)) (hrb : ¬ (cfg.f = true ∧ c = 125)) :
    stepN cfg 0 c = some ([c], .n 0) := by
  simp [stepN, h92, hq, hnl, hlb, hrb]

theorem reads_plain (cfg : LitCfg) (c : Nat) (h13 : c ≠ 13) (h92 : c ≠ 92) (hq : c ≠ cfg.qc)
    (hnl : ¬ (c = 10 ∧ cfg.triple = false)) (hlb : ¬ (cfg.f = true ∧ c = 123)) (hrb : ¬ (cfg.f = true ∧ c = 125)) :
    Reads cfg [c] [c] :=
  ⟨fun h => h13 (List.mem_singleton.mp h).symm, fun rest => by
    simp [run_cons, step, stepN_plain cfg c h92 hq hnl hlb hrb]⟩

theorem reads_simpleEsc (cfg : LitCfg) (hraw : cfg.raw = false) (e v : Nat) (he : simpleEsc e = some v) :
    Reads cfg [92, e] [v] := by
  have h : e ≠ 10 ∧ e ≠ 13 ∧ e ≠ 123 ∧ e ≠ 125 := by
    refine ⟨?_, ?_, ?_, ?_⟩ <;> rintro rfl <;> cases he
  refine ⟨by simp [Ne.symm h.2.1], fun rest => ?_⟩
  show run cfg (.n 0) (92 :: e :: rest) = _
  rw [run_backslash]
  simp [run_cons, step, stepB, hraw, he, h]

theorem quote_ch (q : Quote) : q.ch = 39 ∨ q.ch = 34 := by cases q <;> simp [Quote.ch]

theorem reads_brace (cfg : LitCfg) (hf : cfg.f = true) (hq : cfg.qc = 39 ∨ cfg.qc = 34) (c : Nat) (hc : c = 123 ∨ c = 125) :
    Reads cfg [c, c] [c] := by
  refine ⟨by rcases hc with rfl | rfl <;> decide, fun rest => ?_⟩
  rcases hc with rfl | rfl <;> rcases hq with h | h <;>
    simp [run_cons, step, stepN, hf, h, Option.map_map, Function.comp_def]

theorem renderChar_spec (f rawNl : Bool) (q : Quote) (esc : Bool) (c : Nat) (hc : c ≤ 1114111)
    (hnl : rawNl = true → q.triple = true) : Reads (mkCfg false f q) (renderChar f rawNl esc c) [c] := by
  have hq : (mkCfg false f q).qc = 39 ∨ (mkCfg false f q).qc = 34 := quote_ch q
  -- `split` on the eight nested tests of `renderChar` is slow to check: they are taken one by one
  unfold renderChar
  by_cases hs : c = 92 ∨ c = 39 ∨ c = 34
  · rcases hs with rfl | rfl | rfl <;> exact reads_simpleEsc _ rfl _ _ rfl
  rw [if_neg (by omega), if_neg (by omega), if_neg (by omega)]
  by_cases h10 : c = 10
  · subst h10
    rw [if_pos rfl]
    by_cases hr : rawNl = true
    · rw [if_pos hr]
      exact reads_plain _ 10 (by decide) (by decide) (by omega) (by simp [mkCfg, hnl hr]) (by simp) (by simp)
    · rw [if_neg hr]
      exact reads_simpleEsc _ rfl 110 10 rfl
  rw [if_neg h10]
  by_cases hx : mustHex c = true ∨ esc = true
  · rw [if_pos hx]; exact reads_hexEsc _ rfl c hc
  rw [if_neg hx]
  by_cases hl : f = true ∧ c = 123
  · rw [if_pos hl, hl.2]; exact reads_brace _ hl.1 hq 123 (.inl rfl)
  rw [if_neg hl]
  by_cases hr : f = true ∧ c = 125
  · rw [if_pos hr, hr.2]; exact reads_brace _ hr.1 hq 125 (.inr rfl)
  rw [if_neg hr]
  exact reads_plain _ c (fun h => hx (.inl (by simp [mustHex, h]))) (by omega) (by omega) (fun h => h10 h.1) hl hr

theorem render_cons (f rawNl : Bool) (choices : List Bool) (c : Nat) (cs : Str) :
    render f rawNl choices (c :: cs) = renderChar f rawNl (choices.headD false) c ++ render f rawNl choices.tail cs := by
  cases choices <;> rfl

theorem render_spec (f rawNl : Bool) (q : Quote) (hnl : rawNl = true → q.triple = true) :
    ∀ (s : Str) (choices : List Bool), validStr s → Reads (mkCfg false f q) (render f rawNl choices s) s := by
  intro s
  induction s with
  | nil => intro choices _; cases choices <;> exact .nil _
  | cons c cs ih =>
    intro choices hv
    rw [validStr, List.forall_mem_cons] at hv
    rw [render_cons]
    exact (renderChar_spec f rawNl q (choices.headD false) c hv.1 hnl).append (ih choices.tail hv.2)

/-- what a raw-literal state still owes to the output -/
def owed (cfg : LitCfg) : St → Str
  | .n k => List.replicate k cfg.qc
  | .b => [92]
  | _ => []

def rawState : St → Prop
  | .n _ => True
  | .b => True
  | _ => False

theorem raw_step (cfg : LitCfg) (hraw : cfg.raw = true) (hf : cfg.f = false) (st st' : St) (c : Nat) (out : Str)
    (hs : rawState st) (h : step cfg st c = some (out, st')) :
    rawState st' ∧ out ++ owed cfg st' = owed cfg st ++ [c] := by
  cases st with
  | n k =>
    simp only [step, stepN, hf, Bool.false_eq_true, false_and, if_false] at h
    split at h
    · cases h; subst_vars; exact ⟨trivial, rfl⟩       -- `c` is the backslash: the pending quotes go out, the backslash is owed
    · split at h
      · split at h                                    -- `c` is the quote character:
        · cases h; subst_vars; exact ⟨trivial, List.replicate_succ'⟩    -- one more pending quote
        · cases h                                                       -- the closing quote: no step
      · split at h
        · cases h                                     -- a newline in a one-line literal: no step
        · cases h; exact ⟨trivial, by simp [owed]⟩      -- any other `c` goes out behind the pending quotes
  | b =>
    simp only [step, stepB, hf, hraw, Bool.false_eq_true, false_and, if_false, if_true] at h
    cases h; exact ⟨trivial, rfl⟩
  | _ => exact hs.elim

theorem raw_run (cfg : LitCfg) (hraw : cfg.raw = true) (hf : cfg.f = false) :
    ∀ (body : Str) (st : St) (v : Str), rawState st → run cfg st body = some v → v = owed cfg st ++ body := by
  intro body
  induction body with
  | nil =>
    intro st v hs h
    match st, hs, h with
    | .n 0, _, h => cases h; rfl
    | .n (_ + 1), _, h | .b, _, h => cases h      -- pending quotes, a dangling backslash: `finish` gives no literal
  | cons c cs ih =>
    intro st v hs h
    rw [run_cons] at h
    split at h
    · cases h
    · next out st' hst =>
      obtain ⟨hs', ho⟩ := raw_step cfg hraw hf st st' c out hs hst
      obtain ⟨v', hv', rfl⟩ := Option.map_eq_some_iff.mp h
      rw [ih st' v' hs' hv', ← List.append_assoc, ho, List.append_assoc]; rfl

end PyStr
