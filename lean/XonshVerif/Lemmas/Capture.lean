/-
The invariants behind C06: the namespaces `QA`, `MB`, `SH`, `HI` for `QReader`, `MemBuf`, `Shape`, `Hist` of `Capture`
(Model/Capture.lean).

`QA`  queue reader: a conservation law (`total_run`; it gives the prefix property) and a control invariant `Good` (one annotation
      per program point of each thread; with the law it gives safety).
`MB`  in-memory buffer of PopenThread: the same kind of annotations for the writer, around the reader's own position (`rpos`).
`SH`  text shaping: the `\n`-only line iteration is a left inverse of `flatten` on whole-line fragmentations (`linesLF_of_aligned`;
      `aligned_unique` is its corollary); every pass is the identity on plain text (three of the four through `copies_id`,
      `fixEnd_plain` on its own), where `str.splitlines` is that line iteration.
`HI`  the `output` view over a history of reads: one induction over all states with a cache invariant (`run_reads`).
-/
import XonshVerif.Model.Capture
import XonshVerif.Lemmas.ListFacts
open Capture Capture.Shape

theorem splitLinesAux_flatten (b cur : List Nat) : (splitLinesAux b cur).flatten = cur.reverse ++ b := by
  fun_induction splitLinesAux b cur <;> simp_all

theorem splitLinesB_flatten (b : List Nat) : (splitLinesB b).flatten = b := by
  simp [splitLinesB, splitLinesAux_flatten]

namespace QA
open QReader

def pending : PPc → List Nat
  | .putting c => c
  | _ => []

def total (s : St) : List Nat := s.frags.flatten ++ s.queue.flatten ++ pending s.ppc ++ s.unread.flatten

theorem total_pop (s : St) : total (pop s) = total s := by
  unfold pop
  split
  · rfl
  · rename_i hq; simp [total, hq, splitLinesB_flatten]

theorem total_step (s : St) (t : Tid) : total (step s t) = total s := by
  cases t with
  | P =>
    show total (stepP s) = _
    fun_cases stepP s <;> simp [total, pending, *]
  | C =>
    show total (stepC s) = _
    fun_cases stepC s with
    | case1 | case8 => exact total_pop s     -- `poll` and `rd`
    | _ => rfl
  | D =>
    show total (stepD s) = _
    fun_cases stepD s <;> rfl

theorem total_run (sched : List Tid) (s : St) : total (run s sched) = total s := by
  induction sched generalizing s with
  | nil => rfl
  | cons t ts ih => rw [run, ih, total_step]

theorem total_init (chunks : List (List Nat)) : total (init chunks) = chunks.flatten := by
  simp [total, init, pending]

theorem collected_prefix (chunks : List (List Nat)) (sched : List Tid) :
    ∃ rest, (run (init chunks) sched).collected ++ rest = chunks.flatten :=
  let s := run (init chunks) sched
  -- `rest` is what `total` counts besides `collected`: what is in the queue, being put, not yet read
  ⟨s.queue.flatten ++ pending s.ppc ++ s.unread.flatten,
    by simpa [total, St.collected, List.append_assoc] using (total_run sched _).trans (total_init chunks)⟩

/-- `closed` is raised only after EOF has been decided on, and that only when nothing is left to read -/
def prodAt (closed : Bool) (unread : List (List Nat)) : PPc → Prop
  | .reading | .putting _ => closed = false
  | .closing | .exiting | .dead => unread = []

/-- what the reads of `is_fully_read` have shown so far; `alive` is never used (its `thread.is_alive()` read is not needed
for safety) -/
def consAt (closed : Bool) (queue : List (List Nat)) : CPc → Prop
  | .poll | .chk1 | .rd => True
  | .chk2 | .chk3 => closed = true
  | .done => closed = true ∧ queue = []

theorem consAt_stable {cl cl' q q' c} (h : consAt cl q c) (hcl : cl = true → cl' = true)
    (hq : cl = true → q = [] → q' = []) : consAt cl' q' c := by
  cases c with
  | chk2 | chk3 => exact hcl h
  | done => exact ⟨hcl h.1, hq h.1 h.2⟩
  | _ => trivial

/-- `nonempty`: an empty read would be taken for EOF -/
structure Good (s : St) : Prop where
  nonempty : ∀ c ∈ s.unread, c ≠ []
  prod : prodAt s.closed s.unread s.ppc
  cons : consAt s.closed s.queue s.cpc

theorem good_init (chunks : List (List Nat)) (h : ∀ c ∈ chunks, c ≠ []) : Good (init chunks) :=
  ⟨h, rfl, trivial⟩

theorem good_stepP {s} (g : Good s) : Good (stepP s) := by
  obtain ⟨unread, ppc, queue, closed, alive, cpc, frags⟩ := s
  have ⟨ne, prod, cons⟩ := g
  cases ppc with
  | reading =>
    cases unread with
    | nil => exact ⟨ne, rfl, cons⟩
    | cons c rest =>
      have hc : c.isEmpty = false := by simpa using ne c List.mem_cons_self
      simp only [stepP, hc, Bool.false_eq_true, if_false]
      exact ⟨fun d hd => ne d (List.mem_cons_of_mem _ hd), prod, cons⟩
  | putting c =>
    -- `put` happens before `closed` is raised
    exact ⟨ne, prod, consAt_stable cons id fun h => nomatch prod.symm.trans h⟩
  | closing => exact ⟨ne, prod, consAt_stable cons (fun _ => rfl) fun _ => id⟩
  | exiting | dead => exact ⟨ne, prod, cons⟩

theorem good_pop {s} (g : Good s) : Good (pop s) := by
  unfold pop
  split
  · exact g
  · rename_i hq
    exact ⟨g.nonempty, g.prod, consAt_stable g.cons id fun _ h => nomatch hq.symm.trans h⟩

theorem Good.goto {s} (g : Good s) (c : CPc) (h : consAt s.closed s.queue c) : Good { s with cpc := c } :=
  ⟨g.nonempty, g.prod, h⟩

theorem good_stepC {s} (g : Good s) : Good (stepC s) := by
  have cons := g.cons
  -- the branches of `stepC`: poll; chk1 (closed / not); chk2 (alive / not); chk3 (queue empty / not); rd; done
  fun_cases stepC s with
  | case1 => exact good_pop g
  | case2 _ hcl => exact g.goto .chk2 hcl
  | case3 | case4 | case7 => exact g.goto .rd trivial
  | case5 hc =>
    rw [hc] at cons
    exact g.goto .chk3 cons
  | case6 hc hq =>
    rw [hc] at cons
    exact g.goto .done ⟨cons, by simpa using hq⟩
  | case8 => exact (good_pop g).goto .chk1 trivial
  | case9 => exact g

theorem good_stepD {s} (g : Good s) : Good (stepD s) := by
  unfold stepD
  split
  · exact g.goto .chk1 trivial
  · exact g

theorem good_run (sched : List Tid) (s : St) (g : Good s) : Good (run s sched) := by
  induction sched generalizing s with
  | nil => exact g
  | cons t ts ih =>
    apply ih
    cases t
    · exact good_stepP g
    · exact good_stepC g
    · exact good_stepD g

theorem good_done {s} (g : Good s) (h : s.cpc = .done) : s.collected = total s := by
  have ⟨_, prod, cons⟩ := g
  rw [h] at cons
  rw [cons.1] at prod
  have ⟨hp, hu⟩ : pending s.ppc = [] ∧ s.unread = [] := by
    revert prod; cases s.ppc <;> simp [prodAt, pending]
  simp [St.collected, total, cons.2, hp, hu]

end QA

namespace MB
open MemBuf

/-- the reader's own position: the file position, or where the writer will put it back -/
def rpos (s : St) : Nat :=
  match s.wpc with
  | .idle => s.pos
  | .told p | .atEnd p | .written p => p

def rem (s : St) : List (List Nat) :=
  match s.wpc with
  | .written _ => s.todo.tail
  | _ => s.todo

def wrAt (pos len : Nat) (todo : List (List Nat)) : WPc → Prop
  | .idle => True
  | .told _ => todo ≠ []
  | .atEnd _ | .written _ => pos = len ∧ todo ≠ []

structure Good (payload : List Nat) (s : St) : Prop where
  data : s.buf ++ (rem s).flatten = payload
  deliv : s.delivered = s.buf.take (rpos s)
  le : rpos s ≤ s.buf.length
  wr : wrAt s.pos s.buf.length s.todo s.wpc

theorem good_init (chunks : List (List Nat)) : Good chunks.flatten (init chunks) :=
  ⟨rfl, rfl, Nat.zero_le _, trivial⟩

theorem writeAt_end (buf c : List Nat) : writeAt buf buf.length c = buf ++ c := by
  simp [writeAt]

theorem good_stepW {payload s} (g : Good payload s) : Good payload (stepW s) := by
  have ⟨data, deliv, le, wr⟩ := g
  unfold stepW
  split <;> rename_i hw <;> simp only [hw, rpos, rem, wrAt] at data deliv le wr
  · split
    · exact g
    · rename_i ht
      exact ⟨data, deliv, le, by simp [wrAt, ht]⟩
  · exact ⟨data, deliv, le, ⟨rfl, wr⟩⟩
  · split
    · exact absurd ‹_› wr.2
    · rename_i c t ht
      -- the write happens at the end of the buffer, beyond the reader's position
      rw [wr.1, writeAt_end]
      exact ⟨by simpa [rem, ht] using data, by simpa [rpos, List.take_append_of_le_length le] using deliv,
        by simp [rpos]; omega, by simp [wrAt, ht]⟩
  · exact ⟨data, deliv, le, trivial⟩

theorem stepR_at_end (s : St) (k : Nat) (h : s.pos = s.buf.length) : stepR s k = s := by
  have hd : (s.buf.drop s.pos).take k = [] := by rw [h, List.drop_length, List.take_nil]     -- nothing lies behind the end
  simp only [stepR, hd, List.append_nil, List.length_nil, Nat.add_zero]

theorem good_stepR {payload s} (g : Good payload s) (k : Nat) (hw : ∀ p, s.wpc ≠ .told p) : Good payload (stepR s k) := by
  obtain ⟨buf, pos, wpc, todo, del⟩ := s
  cases wpc with
  | told p => exact absurd rfl (hw p)
  | atEnd p | written p => rw [stepR_at_end _ k g.wr.1]; exact g
  | idle =>
    refine ⟨g.data, ?_, ?_, trivial⟩
    · show del ++ (buf.drop pos).take k = buf.take (pos + ((buf.drop pos).take k).length)
      rw [show del = buf.take pos from g.deliv, List.take_add, List.length_take, ← List.take_eq_take_min]
    · show pos + ((buf.drop pos).take k).length ≤ buf.length
      have : pos ≤ buf.length := g.le
      rw [List.length_take, List.length_drop]
      omega

theorem good_step {payload s} (locked : Bool) (g : Good payload s) (e : Ev) (h : (inWindow s e && !locked) = false) :
    Good payload (step locked s e) := by
  cases e with
  | W => exact good_stepW g
  | R k =>
    cases locked with
    | false =>
      exact good_stepR g k fun p hp => by simp [inWindow, hp] at h
    | true =>
      rw [step, Bool.true_and]
      split
      · exact g
      · rename_i hi
        exact good_stepR g k fun p hp => hi (by rw [hp]; rfl)

theorem good_run {payload} (locked : Bool) (evs : List Ev) (s : St) (g : Good payload s)
    (ht : tame locked s evs = true) : Good payload (run locked s evs) := by
  induction evs generalizing s with
  | nil => exact g
  | cons e es ih =>
    simp only [tame, Bool.and_eq_true, Bool.not_eq_true'] at ht
    exact ih _ (good_step locked g e ht.1) ht.2

theorem good_final {payload s} (g : Good payload s) (hi : s.wpc = .idle) (ht : s.todo = []) : final s = payload := by
  have ⟨data, deliv, _, _⟩ := g
  simp only [rpos, rem, hi, ht, List.flatten_nil, List.append_nil] at data deliv
  rw [final, deliv, List.take_append_drop, data]

theorem tame_locked (evs : List Ev) (s : St) : tame true s evs = true := by
  induction evs generalizing s with
  | nil => rfl
  | cons e es ih => simp [tame, ih]

theorem final_of_tame (locked : Bool) (chunks : List (List Nat)) (evs : List Ev)
    (htame : tame locked (init chunks) evs = true) (hidle : (run locked (init chunks) evs).wpc = .idle)
    (hdone : (run locked (init chunks) evs).todo = []) : final (run locked (init chunks) evs) = chunks.flatten :=
  good_final (good_run locked evs _ (good_init chunks) htame) hidle hdone

end MB

namespace SH

theorem linesLFAux_append {pre l cur : List Nat} (h : ∀ x ∈ pre, x ≠ 10) :
    linesLFAux (pre ++ l) cur = linesLFAux l (pre.reverse ++ cur) := by
  induction pre generalizing cur with
  | nil => rfl
  | cons a as ih =>
    simp only [List.forall_mem_cons] at h
    simp [linesLFAux, h.1, ih h.2]

theorem linesLF_of_aligned (fs : List (List Nat)) (h : LFAligned fs) : linesLF fs.flatten = fs := by
  induction fs using LFAligned.induct with
  | case1 => rfl
  | case2 f =>
    obtain ⟨hne, hfree⟩ := h
    rcases List.eq_nil_or_concat f with rfl | ⟨pre, x, rfl⟩
    · exact absurd rfl hne
    · simp only [List.concat_eq_append, List.dropLast_concat] at hfree
      by_cases hx : x = 10 <;> simp [linesLF, linesLFAux_append hfree, linesLFAux, hx]
  | case3 f g rest ih =>
    obtain ⟨⟨pre, rfl, hfree⟩, hrest⟩ := h
    have := ih hrest
    simp only [linesLF, List.flatten_cons] at this ⊢
    simp [linesLFAux_append hfree, linesLFAux, this]

theorem aligned_unique (fs gs : List (List Nat)) (hf : LFAligned fs) (hg : LFAligned gs) (h : fs.flatten = gs.flatten) : fs = gs := by
  rw [← linesLF_of_aligned fs hf, ← linesLF_of_aligned gs hg, h]

/-- `f n` is a pass over a text with fuel `n` (one unit per step) that copies a character it has no business with -/
theorem copies_id {f : Nat → List Nat → List Nat} {ok : Nat → Prop} (hnil : ∀ n, f n [] = [])
    (hf : ∀ n a rest, ok a → f (n + 1) (a :: rest) = a :: f n rest) (l : List Nat) (h : ∀ x ∈ l, ok x) :
    ∀ n, l.length ≤ n → f n l = l := by
  induction l with
  | nil => exact fun n _ => hnil n
  | cons a as ih =>
    intro n hn
    simp only [List.forall_mem_cons] at h
    cases n with
    | zero => cases hn
    | succ n => rw [hf n a as h.1, ih h.2 n (Nat.le_of_succ_le_succ hn)]

theorem decodeU8_plain (l : List Nat) (h : ∀ x ∈ l, x < 128) : decodeU8 l = l :=
  copies_id (fun n => by cases n <;> rfl) (fun n a rest (ha : a < 128) => by simp [decodeF, ha]) l h _ (Nat.le_refl _)

theorem stripEsc_plain (l : List Nat) (h : ∀ x ∈ l, x ≠ 1 ∧ x ≠ 155 ∧ x ≠ 27) : stripEsc l = l :=
  copies_id (fun n => by cases n <;> rfl) (fun n a rest ha => by simp [stripEscF, matchAt, ha]) l h _ (Nat.le_refl _)

theorem normNL_plain (l : List Nat) (h : ∀ x ∈ l, x ≠ 13) : normNL l = l :=
  copies_id (f := fun _ => normNL) (fun _ => rfl) (fun _ a rest ha => by simp [normNL, ha]) l h _ (Nat.le_refl _)

theorem fixEnd_plain (f : List Nat) (h : ∀ x ∈ f, x ≠ 13) : fixEnd f = f := by
  have h13 : 13 ∉ f.reverse := fun hm => h 13 (List.mem_reverse.mp hm) rfl
  unfold fixEnd
  split
  · rename_i hr; exact absurd (by simp [hr]) h13
  · rename_i hr; exact absurd (by simp [hr]) h13
  · rfl

theorem plainB_iff {x : Nat} : plainB x = true ↔ 32 ≤ x ∧ x ≤ 126 ∨ x = 10 := by simp [plainB]

theorem plain_facts (l : List Nat) (h : ∀ x ∈ l, plainB x = true) :
    (∀ x ∈ l, x < 128) ∧ (∀ x ∈ l, x ≠ 1 ∧ x ≠ 155 ∧ x ≠ 27) ∧ (∀ x ∈ l, x ≠ 13) := by
  have (x) (hx : x ∈ l) : x < 128 ∧ (x ≠ 1 ∧ x ≠ 155 ∧ x ≠ 27) ∧ x ≠ 13 := by
    have := plainB_iff.mp (h x hx); omega
  exact ⟨fun x hx => (this x hx).1, fun x hx => (this x hx).2.1, fun x hx => (this x hx).2.2⟩

theorem shapeFrag_plain (f : List Nat) (h : ∀ x ∈ f, plainB x = true) : shapeFrag f = f := by
  have ⟨h1, h2, h3⟩ := plain_facts f h
  rw [shapeFrag, fixEnd_plain f h3, decodeU8_plain f h1, stripEsc_plain f h2]

theorem canon_plain (t : List Nat) (h : ∀ x ∈ t, plainB x = true) : canon t = t := by
  have ⟨_, h2, h3⟩ := plain_facts t h
  rw [canon, normNL_plain t h3, stripEsc_plain t h2]

theorem specText_plain (b : List Nat) (h : ∀ x ∈ b, plainB x = true) : specText b = b := by
  rw [specText, decodeU8_plain b (plain_facts b h).1, canon_plain b h]

theorem objLines_plain (fs : List (List Nat)) (h : ∀ f ∈ fs, ∀ x ∈ f, plainB x = true) : objLines fs = fs :=
  List.map_id_of_forall _ fs fun f hf => shapeFrag_plain f (h f hf)

theorem rstripNL_line (t : List Nat) (h : ∀ x ∈ t, x ≠ 10) : rstripNL (t ++ [10]) = t ∧ rstripNL t = t := by
  have : t.reverse.dropWhile (· == 10) = t.reverse :=
    List.dropWhile_beq_eq_self_of_head?_ne fun e => h 10 (List.mem_reverse.mp (List.mem_of_head? e)) rfl
  simp [rstripNL, this]

theorem plain_break {x : Nat} (hp : plainB x = true) : isStrBreak x = decide (x = 10) := by
  rcases plainB_iff.mp hp with h | rfl
  · have : x ≠ 10 := by omega
    simp only [this, decide_false, isStrBreak, Bool.or_eq_false_iff, beq_eq_false_iff_ne]
    omega
  · rfl

theorem strSplitAux_plain (t cur : List Nat) (h : ∀ x ∈ t, plainB x = true) : strSplitAux t cur = linesLFAux t cur := by
  induction t generalizing cur with
  | nil => rfl
  | cons a as ih =>
    simp only [List.forall_mem_cons] at h
    simp only [strSplitAux, linesLFAux, plain_break h.1, decide_eq_true_eq, ih _ h.2]

theorem stdoutLines_plain (b : List Nat) (h : ∀ x ∈ b, plainB x = true) : stdoutLines b = linesLF b := by
  have ⟨h1, _, h3⟩ := plain_facts b h
  rw [stdoutLines, decodeU8_plain b h1, normNL_plain b h3, strSplitLines, strSplitAux_plain b [] h, linesLF]

end SH

namespace HI
open Capture.Hist

theorem delivered_true (ops : List Op) : delivered true ops = [] := by
  induction ops with
  | nil => rfl
  | cons o os ih => simpa [delivered] using ih

def CacheOk (s : St) : Prop := ∀ v, s.cache = some v → s.ended = true ∧ v = fmtLines s.lines

theorem run_reads (ops : List Op) : ∀ s : St, CacheOk s →
    ∀ r ∈ run false s ops, (r.1 = true → r.2 = fmtLines (s.lines ++ delivered s.ended ops)) ∧
      (r.1 = false → ∃ k, r.2 = fmtLines ((s.lines ++ delivered s.ended ops).take k)) := by
  induction ops with
  | nil => nofun
  | cons op ops ih =>
    intro ⟨e, c, ls⟩ hc r hr
    cases op with
    | deliver l =>
      cases e with
      | true => exact ih _ hc r hr
      | false =>
        have hc' : CacheOk ⟨false, c, ls ++ [l]⟩ := fun v hv => nomatch (hc v hv).1     -- not ended: by `hc` nothing is cached
        exact List.append_assoc ls [l] _ ▸ ih _ hc' r hr
    | finish =>
      have := ih ⟨true, c, ls⟩ (fun v hv => ⟨rfl, (hc v hv).2⟩) r hr
      cases e <;> exact this
    | read =>
      have ⟨c', hc', hrun⟩ : ∃ c', CacheOk ⟨e, c', ls⟩ ∧
          run false ⟨e, c, ls⟩ (.read :: ops) = (e, fmtLines ls) :: run false ⟨e, c', ls⟩ ops := by
        cases e with
        | false => exact ⟨c, hc, rfl⟩
        | true =>
          cases c with
          | none => exact ⟨_, fun v hv => ⟨rfl, by cases hv; rfl⟩, rfl⟩
          | some v => obtain rfl : v = fmtLines ls := (hc v rfl).2; exact ⟨_, hc, rfl⟩
      have hd : delivered e (.read :: ops) = delivered e ops := by cases e <;> rfl
      rw [hrun, List.mem_cons] at hr
      rcases hr with rfl | hr
      · exact ⟨fun h => by cases h; simp [delivered_true], fun _ => ⟨ls.length, by simp⟩⟩
      · exact hd ▸ ih _ hc' r hr

end HI
