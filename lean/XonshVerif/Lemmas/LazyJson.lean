/- C12 — the self-indexing JSON writer: every node's index entry is `Located` in the serialised text, at any offset and nesting. -/
import XonshVerif.Model.LazyJson
namespace LJ

theorem slice_left {a b : Str} {x s : Nat} (h : x + s ≤ a.length) : slice (a ++ b) x s = slice a x s := by
  unfold slice
  rw [List.drop_append_of_le_length (by omega)]
  rw [List.take_append_of_le_length (by simp; omega)]

theorem slice_right (a r : Str) (y s : Nat) : slice (a ++ r) (a.length + y) s = slice r y s := by
  unfold slice
  rw [List.drop_append]
  have : List.drop (a.length + y) a = [] := List.drop_eq_nil_of_le (by omega)
  rw [this]
  simp

theorem slice_take {b : Str} {m y s : Nat} (h : y + s ≤ m) : slice (b.take m) y s = slice b y s := by
  unfold slice
  rw [List.drop_take, List.take_take]
  congr 1
  omega

theorem slice_all (t : Str) : slice t 0 t.length = t := by simp [slice]

theorem stripSep_eq (body : Str) : stripSep body = body.take (body.length - 2) := by
  cases body <;> rfl

/-- where a node's own text sits, relative to the start `off` of the enclosing serialisation -/
def Located (text : Str) (off : Nat) (extra : Nat) (d : J) (o s : Nat) : Prop :=
  off ≤ o ∧ o + s + extra ≤ off + text.length ∧ slice text (o - off) s = (ser d 0).text

/-! how `Located` moves when text is put around: these three steps are all the serialiser does -/

/-- text after: it may take up the room that was kept free -/
theorem Located.append_right {a : Str} {off e d o s} (b : Str) {e' : Nat} (h : Located a off e d o s)
    (he : e' ≤ e + b.length) : Located (a ++ b) off e' d o s := by
  obtain ⟨h1, h2, h3⟩ := h
  refine ⟨h1, by rw [List.length_append]; omega, ?_⟩
  rw [slice_left (by omega)]
  exact h3

theorem Located.append_left {r : Str} {off' e d o s} (a : Str) {off : Nat} (h : Located r off' e d o s)
    (ho : off' = off + a.length) : Located (a ++ r) off e d o s := by
  obtain ⟨h1, h2, h3⟩ := h
  subst ho
  refine ⟨by omega, by rw [List.length_append]; omega, ?_⟩
  have e1 : o - off = a.length + (o - (off + a.length)) := by omega
  rw [e1, slice_right]
  exact h3

/-- the two characters kept free are those of the stripped ", " -/
theorem Located.wrap {body : Str} {off d o s} (opn cls : Char) (h : Located body (off + 1) 2 d o s) :
    Located (opn :: stripSep body ++ [cls, '\n']) off 0 d o s := by
  obtain ⟨h1, h2, h3⟩ := h
  have : Located (body.take (body.length - 2)) (off + 1) 0 d o s :=
    ⟨h1, by rw [List.length_take]; omega, by rw [slice_take (by omega)]; exact h3⟩
  rw [stripSep_eq]
  exact (this.append_right [cls, '\n'] (Nat.zero_le _)).append_left [opn] rfl

/-! text, length and sizes of a serialisation do not depend on the start offset; each induction hypothesis rewrites an offset to 0 -/
mutual
theorem ser_indep (v : J) (off : Nat) :
    (ser v off).text = (ser v 0).text ∧ (ser v off).n = (ser v 0).n ∧ (ser v off).sizes = (ser v 0).sizes := by
  cases v with
  | leaf t => simp [ser]
  | arr xs => simp only [ser, fun j => (serList_indep xs j).1, fun j => (serList_indep xs j).2, and_self]
  | obj kvs => simp only [ser, fun j => (serKvs_indep kvs j).1, fun j => (serKvs_indep kvs j).2, and_self]
theorem serList_indep (xs : List J) (j : Nat) :
    (serList xs j).1 = (serList xs 0).1 ∧ (serList xs j).2.2 = (serList xs 0).2.2 := by
  cases xs with
  | nil => simp [serList]
  | cons x xs =>
    simp only [serList, fun j => (ser_indep x j).1, fun j => (ser_indep x j).2.1, fun j => (ser_indep x j).2.2,
      fun j => (serList_indep xs j).1, fun j => (serList_indep xs j).2, and_self]
theorem serKvs_indep (kvs : List (Str × J)) (j : Nat) :
    (serKvs kvs j).1 = (serKvs kvs 0).1 ∧ (serKvs kvs j).2.2 = (serKvs kvs 0).2.2 := by
  cases kvs with
  | nil => simp [serKvs]
  | cons kv kvs =>
    obtain ⟨k, v⟩ := kv
    simp only [serKvs, fun j => (ser_indep v j).1, fun j => (ser_indep v j).2.1, fun j => (ser_indep v j).2.2,
      fun j => (serKvs_indep kvs j).1, fun j => (serKvs_indep kvs j).2, and_self]
end

theorem ser_n (v : J) (off : Nat) : (ser v off).n = (ser v off).text.length := by
  cases v <;> simp [ser]

theorem located_self (v : J) (off : Nat) : Located (ser v off).text off 0 v off (ser v off).n := by
  refine ⟨Nat.le_refl _, by rw [ser_n]; omega, ?_⟩
  rw [Nat.sub_self, ser_n, ← (ser_indep v off).1]
  exact slice_all _

-- every node of a value together with the offset and the size its index entries record
mutual
def nodes : J → Idx → Idx → List (J × Nat × Nat)
  | .leaf t, o, s => [(.leaf t, o.self, s.self)]
  | .arr xs, .arr os t, .arr ss t' => (.arr xs, t, t') :: nodesList xs os ss
  | .obj kvs, .obj os t, .obj ss t' => (.obj kvs, t, t') :: nodesKvs kvs os ss
  | _, _, _ => []
def nodesList : List J → List Idx → List Idx → List (J × Nat × Nat)
  | x :: xs, o :: os, s :: ss => nodes x o s ++ nodesList xs os ss
  | _, _, _ => []
def nodesKvs : List (Str × J) → List (Str × Idx) → List (Str × Idx) → List (J × Nat × Nat)
  | (_, v) :: kvs, (_, o) :: os, (_, s) :: ss => nodes v o s ++ nodesKvs kvs os ss
  | _, _, _ => []
end

mutual
theorem nodes_located (v : J) (off : Nat) :
    ∀ d o s, (d, o, s) ∈ nodes v (ser v off).offs (ser v off).sizes → Located (ser v off).text off 0 d o s := by
  intro d o s h
  cases v with
  | leaf t =>
    simp only [ser, nodes, Idx.self, List.mem_singleton, Prod.mk.injEq] at h
    obtain ⟨rfl, rfl, rfl⟩ := h
    exact located_self (.leaf t) o
  | arr xs =>
    simp only [ser, nodes, List.mem_cons, Prod.mk.injEq] at h
    rcases h with ⟨rfl, rfl, rfl⟩ | h
    · exact located_self (.arr xs) o
    · exact (nodesList_located xs (off + 1) d o s h).wrap '[' ']'
  | obj kvs =>
    simp only [ser, nodes, List.mem_cons, Prod.mk.injEq] at h
    rcases h with ⟨rfl, rfl, rfl⟩ | h
    · exact located_self (.obj kvs) o
    · exact (nodesKvs_located kvs (off + 1) d o s h).wrap '{' '}'
theorem nodesList_located (xs : List J) (j : Nat) :
    ∀ d o s, (d, o, s) ∈ nodesList xs (serList xs j).2.1 (serList xs j).2.2 → Located (serList xs j).1 j 2 d o s := by
  intro d o s h
  cases xs with
  | nil => simp [nodesList] at h
  | cons x xs =>
    simp only [serList, nodesList, List.mem_append] at h
    simp only [serList]
    rcases h with h | h
    · exact ((nodes_located x j d o s h).append_right sep (Nat.le_refl _)).append_right _ (Nat.le_add_right _ _)
    · exact (nodesList_located xs _ d o s h).append_left _ (by simp [ser_n, sep]; omega)
theorem nodesKvs_located (kvs : List (Str × J)) (j : Nat) :
    ∀ d o s, (d, o, s) ∈ nodesKvs kvs (serKvs kvs j).2.1 (serKvs kvs j).2.2 → Located (serKvs kvs j).1 j 2 d o s := by
  intro d o s h
  cases kvs with
  | nil => simp [nodesKvs] at h
  | cons kv kvs =>
    obtain ⟨k, v⟩ := kv
    simp only [serKvs, nodesKvs, List.mem_append] at h
    simp only [serKvs]
    rcases h with h | h
    · exact ((((nodes_located v _ d o s h).append_left (k ++ kvSep) (by simp [kvSep]; omega)).append_right sep
        (Nat.le_refl _)).append_right _ (Nat.le_add_right _ _))
    · exact (nodesKvs_located kvs _ d o s h).append_left _ (by simp [ser_n, sep, kvSep]; omega)
end

end LJ
