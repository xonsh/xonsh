/-
What the rule functions of the run loop answer with.  They are deep `if` chains, on which `split` takes time
exponential in the depth: they are taken apart by their own case principles (`fun_cases`), one goal per rule.
-/
import XonshVerif.Model.Format

namespace Format

def SepOk (cfg : Cfg) (p : Piece) : Prop :=
  p.isTok = false ∧ (p.fromSrc = false → allWs cfg.indent = true → allWs p.text = true)

theorem allWs_repeatStr {s : Str} (n : Int) (h : allWs s = true) : allWs (repeatStr s n) = true := by
  simp only [allWs] at h ⊢
  simp [repeatStr, List.all_flatten, List.all_replicate, h]

theorem allWs_spaces (n : Int) : allWs (spaces n) = true :=
  List.all_eq_true.mpr fun c hc => List.eq_of_mem_replicate hc ▸ by decide

theorem sepP_ok {cfg : Cfg} {r : Rule} {t : Str} (h : allWs t = true) : SepOk cfg (sepP r t) := ⟨rfl, fun _ _ => h⟩
theorem srcP_ok {cfg : Cfg} {r : Rule} {t : Str} : SepOk cfg (srcP r t) := ⟨rfl, fun h => nomatch h⟩
theorem indent_ok {cfg : Cfg} {r : Rule} {n : Int} : SepOk cfg (sepP r (repeatStr cfg.indent n)) :=
  ⟨rfl, fun _ => allWs_repeatStr n⟩

def OptAll (P : Piece → Prop) (o : Option Piece) : Prop := ∀ p, o = some p → P p

theorem OptAll.some {P : Piece → Prop} {p : Piece} (h : P p) : OptAll P (.some p) :=
  fun _ e => Option.some.inj e ▸ h

theorem OptAll.none {P : Piece → Prop} : OptAll P .none := fun _ h => nomatch h

/-- what `_space_between` answers with; the four glue rules whose pairs must not merge carry their tests -/
def SpaceSpec (cfg : Cfg) (ps cs : Str) (p : Piece) : Prop :=
  SepOk cfg p ∧
  match p.rule with
  | .opener => cfg.tb.openers.contains ps = true
  | .closer => cfg.tb.closers.contains cs = true
  | .commaB => (cs = [','] || cs = [';']) = true
  | .colonB => cs = [':']
  | _ => True

theorem SpaceSpec.glue {cfg : Cfg} {ps cs : Str} {p : Piece} (h : SpaceSpec cfg ps cs p)
    (hr : p.rule = .opener ∨ p.rule = .closer ∨ p.rule = .commaB ∨ p.rule = .colonB) :
    ps ∈ cfg.tb.openers ∨ cs ∈ cfg.tb.closers ++ [[','], [';'], [':']] := by
  have h2 := h.2
  rcases hr with e | e | e | e <;> rw [e] at h2
  · exact .inl (List.contains_iff_mem.mp h2)
  · exact .inr (List.mem_append_left _ (List.contains_iff_mem.mp h2))
  · refine .inr (List.mem_append_right _ ?_)
    rcases (Bool.or_eq_true _ _).mp h2 with q | q <;> rw [of_decide_eq_true q]
    · exact .head _
    · exact .tail _ (.head _)
  · exact .inr (List.mem_append_right _ (h2 ▸ .tail _ (.tail _ (.head _))))

/-- `if self._in_subproc_text(): return` the gap -/
theorem forced_guarded {cfg : Cfg} {st : St} (hg : cfg.v.guard = true) (hs : inSubprocText st = true)
    (pk ck : Kind) (ps cs : Str) :
    forced cfg st pk ps ck cs =
      if ck = .comment then some (sepP .comment [' ', ' '])
      else if cfg.tb.openers.contains ps then some (sepP .opener [])
      else if cfg.tb.closers.contains cs then some (sepP .closer [])
      else none := by
  rw [forced, hg, hs]; rfl

theorem forced_spec {cfg : Cfg} {st : St} {pk ck : Kind} {ps cs : Str} :
    OptAll (SpaceSpec cfg ps cs) (forced cfg st pk ps ck cs) := by
  fun_cases forced cfg st pk ps ck cs
  · exact .some ⟨sepP_ok rfl, trivial⟩              -- comment
  · exact .some ⟨sepP_ok rfl, ‹_›⟩                  -- opener
  · exact .some ⟨sepP_ok rfl, ‹_›⟩                  -- closer
  · exact .none                                     -- guarded subprocess text
  fun_cases forcedLate cfg st pk ps cs
  · exact .some ⟨sepP_ok rfl, ‹_›⟩                  -- commaB
  · exact .some ⟨sepP_ok rfl, trivial⟩              -- commaA
  · exact .some ⟨sepP_ok rfl, ‹_›⟩                  -- colonB
  iterate 5 exact .some ⟨sepP_ok rfl, trivial⟩      -- colonSlice, colonA, eq, always, kw
  · exact .none

theorem gapOf_cases (a b : Tok) :
    gapOf a b = sepP .gapLines [' '] ∨ gapOf a b = sepP .gapSome [' '] ∨ gapOf a b = sepP .gapNone [] := by
  fun_cases gapOf a b
  · exact .inl rfl
  · exact .inr (.inl rfl)
  · exact .inr (.inr rfl)

theorem spaceLate_eq (cfg : Cfg) (st : St) (a b : Tok) :
    spaceLate cfg st a b = (forced cfg st a.kind a.text b.kind b.text).getD (gapOf a b) := by
  unfold spaceLate; cases forced cfg st a.kind a.text b.kind b.text <;> rfl

theorem spaceLate_spec {cfg : Cfg} {st : St} {a b : Tok} :
    SpaceSpec cfg a.text b.text (spaceLate cfg st a b) := by
  fun_cases spaceLate cfg st a b
  next p h => exact forced_spec p h
  next => rcases gapOf_cases a b with h | h | h <;> rw [h] <;> exact ⟨sepP_ok rfl, trivial⟩

theorem spaceBetween_spec (cfg : Cfg) (st : St) (a b : Tok) :
    SpaceSpec cfg a.text b.text (spaceBetween cfg st a b) := by
  fun_cases spaceBetween cfg st a b
  iterate 3 exact ⟨sepP_ok rfl, trivial⟩            -- fstr, fstr, bang
  fun_cases spaceRest cfg st a b
  · exact ⟨indent_ok, trivial⟩                      -- rawCont
  · exact ⟨srcP_ok, trivial⟩                        -- raw
  · exact ⟨indent_ok, trivial⟩                      -- contSub
  · exact ⟨sepP_ok (allWs_spaces _), trivial⟩       -- contPy
  · exact spaceLate_spec

theorem blanksFor_ok {cfg : Cfg} {n : Nat} {l : Int} {x : Piece} (hx : SepOk cfg x) :
    ∀ p ∈ blanksFor n l ++ [x], SepOk cfg p := by
  intro p hp
  rcases List.mem_append.mp hp with h | h
  · rw [blanksFor, List.mem_replicate] at h
    exact h.2 ▸ sepP_ok rfl
  · exact List.mem_singleton.mp h ▸ hx

theorem leadOf_ok (cfg : Cfg) (st : St) (t : Tok) (rest : List Tok) :
    ∀ p ∈ (leadOf cfg st t rest).pieces, SepOk cfg p := by
  fun_cases leadOf cfg st t rest
  · exact blanksFor_ok srcP_ok                      -- a line inside brackets
  · exact blanksFor_ok indent_ok                    -- a comment line
  · exact blanksFor_ok indent_ok                    -- a statement line
  · exact fun p hp => List.mem_singleton.mp hp ▸ sepP_ok rfl
  · exact fun p hp => List.mem_singleton.mp hp ▸ (spaceBetween_spec _ _ _ _).1

end Format
