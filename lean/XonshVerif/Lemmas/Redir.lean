/-
Helper lemmas for C07, part 1 (model only — no generated tables are imported here): from the redirect list of a
command to its claims and its three slots, and `cmds_to_specs` refined to a stage-by-stage function.
-/
import XonshVerif.Model.Redir
namespace Redir

abbrev Slots := Option Slot × Option Slot × Option Slot

theorem head_toList {α : Type} : ∀ {l : List α}, l.length ≤ 1 → l = l.head?.toList
  | [], _ => rfl
  | [_], _ => rfl

theorem setSlot_ok (e : Err) (cur new r : Option Slot) :
    setSlot e cur new = .ok r ↔ (cur.toList ++ new.toList).length ≤ 1 ∧ r = (cur.toList ++ new.toList).head? := by
  cases cur <;> cases new <;> simp [setSlot, eq_comm]

theorem setSlot_err (e : Err) (cur new : Option Slot) :
    (∃ x, setSlot e cur new = .error x) ↔ 2 ≤ (cur.toList ++ new.toList).length := by
  cases cur <;> cases new <;> simp [setSlot]

theorem setSlot_eq (e : Err) (cur new : Option Slot) :
    setSlot e cur new =
      if (cur.toList ++ new.toList).length ≤ 1 then .ok (cur.toList ++ new.toList).head? else .error e := by
  cases cur <;> cases new <;> rfl

theorem slot_step {cur new : Option Slot} (rest : List Slot) (h : (cur.toList ++ new.toList).length ≤ 1) :
    (cur.toList ++ new.toList).head?.toList ++ rest = cur.toList ++ (new.toList ++ rest) := by
  rw [← head_toList h, List.append_assoc]

theorem map_filterMap_cons {α β γ : Type} (f : α → Option β) (g : β → γ) (a : α) (l : List α) :
    ((a :: l).filterMap f).map g = ((f a).map g).toList ++ (l.filterMap f).map g := by
  cases h : f a <;> simp [h]

def inSlot (t : Nat) : Slot := .file t ['r']

def outSlot : Claim → Slot
  | .file t a => .file t (modeOf a)
  | .other => .fd2
  | .pipe => .pipeAll

def errSlot : Claim → Slot
  | .file t a => .file t (modeOf a)
  | .other => .toStdout
  | .pipe => .pipeErr

def slotsOf (w : Op × Option Nat) : Slots :=
  ((claimIn w).map inSlot, (claimOut w).map outSlot, (claimErr w).map errSlot)

def isMergeOrPipe : Op → Bool
  | .errToOut | .outToErr | .allToPipe | .errToPipe => true
  | _ => false

/-- a redirect as the grammar can produce it and as the tables decode it; merge / pipe operators carry no target word
(p_subproc_atom_redirect: a lone IOREDIRECT2) -/
def Good (T : Tables) (p : Str × Loc) : Prop :=
  ∃ op, specDecode p.1 = some op ∧ classify T p.1 = .ok (clsOf op) ∧ (isMergeOrPipe op = true → ∀ t, p.2 ≠ .one t)

theorem modeOf_ne_r (a : Bool) : modeOf a ≠ ['r'] := by cases a <;> simp [modeOf]

theorem streams_wf {T : Tables} (ts : Nat → TState) {p : Str × Loc} (h : Good T p) :
    match wellFormed ts p.1 p.2 with
    | some w => redirectStreams T ts p.1 p.2 = .ok (slotsOf w)
    | none => ∃ e, redirectStreams T ts p.1 p.2 = .error e := by
  obtain ⟨r, loc⟩ := p
  obtain ⟨op, hd, hc, hs⟩ := h
  simp only at hd hc hs
  simp only [wellFormed, hd, redirectStreams, hc, safeOpen]
  cases loc with
  | none | many => cases op <;> first | rfl | exact ⟨_, rfl⟩
  | one t =>
    cases op with
    | errToOut | outToErr | allToPipe | errToPipe => exact absurd rfl (hs rfl t)
    | input => dsimp only [clsOf]; cases ts t <;> first | rfl | exact ⟨_, rfl⟩
    | outFile a | errFile a | allFile a => cases a <;> dsimp only [clsOf] <;> cases ts t <;> first | rfl | exact ⟨_, rfl⟩

/-- the well-formed redirects of a list, in order -/
def wfs (ts : Nat → TState) (rs : List (Str × Loc)) : List (Op × Option Nat) :=
  rs.filterMap fun p => wellFormed ts p.1 p.2

theorem applyRedirs_from {T : Tables} (ts : Nat → TState) {rs : List (Str × Loc)} (hg : ∀ p ∈ rs, Good T p)
    (i o e : Option Slot) (r : Slots) :
    let ci := i.toList ++ ((wfs ts rs).filterMap claimIn).map inSlot
    let co := o.toList ++ ((wfs ts rs).filterMap claimOut).map outSlot
    let ce := e.toList ++ ((wfs ts rs).filterMap claimErr).map errSlot
    applyRedirs T ts rs (i, o, e) = .ok r ↔
      (∀ p ∈ rs, (wellFormed ts p.1 p.2).isSome = true) ∧ (ci.length ≤ 1 ∧ co.length ≤ 1 ∧ ce.length ≤ 1) ∧
        r = (ci.head?, co.head?, ce.head?) := by
  induction rs generalizing i o e with
  | nil => cases i <;> cases o <;> cases e <;> simp [applyRedirs, wfs] <;> exact eq_comm
  | cons p rest ih =>
    have h1 := streams_wf ts (hg p (by simp))
    obtain ⟨x, loc⟩ := p
    cases hwf : wellFormed ts x loc with
    | none =>
      obtain ⟨err, hx⟩ : ∃ e, redirectStreams T ts x loc = .error e := by simpa only [hwf] using h1
      simp [applyRedirs, hx, hwf]
    | some w =>
      have h1 : redirectStreams T ts x loc = .ok (slotsOf w) := by simpa only [hwf] using h1
      have hw : wfs ts ((x, loc) :: rest) = w :: wfs ts rest := by simp [wfs, hwf]
      have ih := fun i o e => ih (fun q hq => hg q (by simp [hq])) i o e
      simp only [applyRedirs, h1, slotsOf, setSlot_eq, hw, map_filterMap_cons, List.forall_mem_cons, hwf, Option.isSome_some,
        true_and]
      by_cases h1 : (i.toList ++ ((claimIn w).map inSlot).toList).length ≤ 1
      · by_cases h2 : (o.toList ++ ((claimOut w).map outSlot).toList).length ≤ 1
        · by_cases h3 : (e.toList ++ ((claimErr w).map errSlot).toList).length ≤ 1
          · simp only [h1, h2, h3, if_true, ih, slot_step _ h1, slot_step _ h2, slot_step _ h3]
          · simp only [h1, h2, h3, if_true, if_false, reduceCtorEq, false_iff]
            simp only [List.length_append] at h3 ⊢; omega
        · simp only [h1, h2, if_true, if_false, reduceCtorEq, false_iff]
          simp only [List.length_append] at h2 ⊢; omega
      · simp only [h1, if_false, reduceCtorEq, false_iff]
        simp only [List.length_append] at h1 ⊢; omega

abbrev Single (ws : List (Op × Option Nat)) : Prop :=
  (ws.filterMap claimIn).length ≤ 1 ∧ (ws.filterMap claimOut).length ≤ 1 ∧ (ws.filterMap claimErr).length ≤ 1

/-- `resolve_redirects` on grammar-shaped redirects: it succeeds iff every redirect is well formed and no stream is
claimed twice, and then the slots hold the claims -/
theorem applyRedirs_ok {T : Tables} {ts : Nat → TState} {rs : List (Str × Loc)} (hg : ∀ p ∈ rs, Good T p) {s : Slots} :
    applyRedirs T ts rs (none, none, none) = .ok s ↔
      ((∀ p ∈ rs, (wellFormed ts p.1 p.2).isSome = true) ∧ Single (wfs ts rs)) ∧
      s = ((((wfs ts rs).filterMap claimIn).head?).map inSlot, (((wfs ts rs).filterMap claimOut).head?).map outSlot,
        (((wfs ts rs).filterMap claimErr).head?).map errSlot) := by
  simpa [Single, List.head?_map, and_assoc] using applyRedirs_from ts hg none none none s

theorem applyRedirs_ok_iff {T : Tables} {ts : Nat → TState} {rs : List (Str × Loc)} (hg : ∀ p ∈ rs, Good T p) :
    (∃ s, applyRedirs T ts rs (none, none, none) = .ok s) ↔
      (∀ p ∈ rs, (wellFormed ts p.1 p.2).isSome = true) ∧ Single (wfs ts rs) :=
  ⟨fun ⟨_, h⟩ => ((applyRedirs_ok hg).1 h).1, fun h => ⟨_, (applyRedirs_ok hg).2 ⟨h, rfl⟩⟩⟩

/-- `a>p` claims stdout for the pipe and stderr for stdout in one redirect -/
theorem pipe_other {ws : List (Op × Option Nat)} (hs : Single ws) (h : (ws.filterMap claimOut).head? = some .pipe) :
    (ws.filterMap claimErr).head? = some .other := by
  obtain ⟨w, hw, hc⟩ := List.exists_of_findSome?_eq_some (List.head?_filterMap ▸ h)
  have he : claimErr w = some .other := by
    obtain ⟨op, t⟩ := w
    cases op <;> cases t <;> first | rfl | cases hc
  have hm : Claim.other ∈ ws.filterMap claimErr := List.mem_filterMap.2 ⟨w, hw, he⟩
  rw [head_toList hs.2.2] at hm
  exact Option.mem_toList.1 hm

theorem wellFormed_op {ts : Nat → TState} {r : Str} {loc : Loc} {w : Op × Option Nat} (h : wellFormed ts r loc = some w) :
    specDecode r = some w.1 := by
  -- every branch of `wellFormed` returns the operator it has matched on
  unfold wellFormed at h
  split at h <;> first
    | (cases h; assumption)                   -- a merge / pipe operator
    | (split at h <;> cases h; assumption)    -- a file operator, whose target can be opened or not
    | cases h                                 -- not well formed

theorem claimOut_other {w : Op × Option Nat} (h : claimOut w = some .other) : w.1 = .outToErr := by
  obtain ⟨op, t⟩ := w
  cases op <;> cases t <;> first | rfl | cases h

theorem no_other {ts : Nat → TState} {rs : List (Str × Loc)} (h : ∀ p ∈ rs, specDecode p.1 ≠ some .outToErr) :
    ((wfs ts rs).filterMap claimOut).head? ≠ some .other := by
  intro hh
  obtain ⟨w, hw, hc⟩ := List.exists_of_findSome?_eq_some (List.head?_filterMap ▸ hh)
  obtain ⟨p, hp, hwf⟩ := List.mem_filterMap.1 hw
  exact h p hp (claimOut_other hc ▸ wellFormed_op hwf)

theorem toOption_eq_none {α : Type} {x : Except Err α} (h : Except.toOption x = none) : ∃ e, x = .error e := by
  cases x with
  | error e => exact ⟨e, rfl⟩
  | ok a => cases h

theorem toOption_eq_some {α : Type} {x : Except Err α} {a : α} (h : Except.toOption x = some a) : x = .ok a := by
  cases x with
  | error e => cases h
  | ok b => cases h; rfl

/-! Everything `cmds_to_specs` does to the stage at position i of n depends on (n, i) only through "first?", "last?"
and the numbers carried inside pipe ends; with the position abstracted to two booleans the comparison of one stage
becomes a finite case analysis. -/

/-- nothing ties `first` to `idx` here (`idx - 1` is the previous stage only through `posOf`): the one-stage lemmas hold for
every combination -/
structure Pos where
  first : Bool
  last : Bool
  idx : Nat

def Pos.multi (p : Pos) : Bool := !(p.first && p.last)

def posOf (n i : Nat) : Pos := ⟨i == 0, i + 1 == n, i⟩

def inAt (p : Pos) (s : Spec) : Option Spec :=
  if p.first then some s
  else
    match setSlot .multiStdin s.sin (some (.pipeR (p.idx - 1))) with
    | .ok x => some { s with sin := x }
    | .error _ => none

def outAt (p : Pos) (s : Spec) : Option Spec := if p.last then some s else Except.toOption (wireUp p.idx s)

def wiredAt (p : Pos) (s : Spec) : Option Spec := (inAt p s).bind (outAt p)

def mapMI {α β : Type} (f : Nat → α → Option β) : Nat → List α → Option (List β)
  | _, [] => some []
  | i, a :: rest => (f i a).bind fun b => (mapMI f (i + 1) rest).map (b :: ·)

theorem wireFrom_eq (rest : List Spec) (i : Nat) (up : Spec) (n : Nat) (hn : n = i + 1 + rest.length) :
    Except.toOption (wireFrom i up rest) =
      (outAt (posOf n i) up).bind fun a => (mapMI (fun j => wiredAt (posOf n j)) (i + 1) rest).map (a :: ·) := by
  induction rest generalizing i up with
  | nil =>
    have : (i + 1 == n) = true := by simp at hn; simp [hn]
    simp [wireFrom, outAt, posOf, this, mapMI, Except.toOption]
  | cons dn rest' ih =>
    have h1 : (i + 1 == n) = false := by simp at hn; simp; omega
    have h2 : (i + 1 == 0) = false := by simp
    simp only [wireFrom, outAt, posOf, h1, h2, mapMI, wiredAt, inAt, Bool.false_eq_true, if_false, Nat.add_sub_cancel]
    cases wireUp i up with
    | error x => rfl
    | ok up' =>
      cases setSlot .multiStdin dn.sin (some (.pipeR i)) with
      | error x => rfl
      | ok di =>
        have := ih (i + 1) { dn with sin := di } (by simp at hn ⊢; omega)
        simp only [posOf, h2] at this
        simp only [Option.bind_some, ← this]
        cases wireFrom (i + 1) { dn with sin := di } rest' <;> rfl

theorem wire_eq (specs : List Spec) : Except.toOption (wire specs) = mapMI (fun j => wiredAt (posOf specs.length j)) 0 specs := by
  cases specs with
  | nil => rfl
  | cons s rest => exact wireFrom_eq rest 0 s (s :: rest).length (by simp; omega)

/-- the two checks of cmds_to_specs after the wiring, on one spec (`multi`: the pipeline has more than one stage) -/
def checkB (multi : Bool) (s : Spec) : Bool :=
  !(s.sout = some .pipeAll || s.serr = some .pipeErr) && !(multi && (isAlias s.kind && !s.threadable))

def finAt (q : Quirks) (cfg : Cfg) (cap : Cap) (p : Pos) (w : Spec) : Option Spec :=
  if checkB p.multi w then some (if p.last then updateLast q cfg cap w else w) else none

theorem posOf_multi (n i : Nat) (hi : i < n) : (posOf n i).multi = decide (n > 1) := by
  simp only [posOf, Pos.multi]
  rw [Bool.eq_iff_iff]
  simp
  omega

theorem fin_eq (q : Quirks) (cfg : Cfg) (cap : Cap) (wired : List Spec) (i n : Nat) (hn : n = i + wired.length) :
    mapMI (fun j => finAt q cfg cap (posOf n j)) i wired =
      if wired.all (checkB (decide (n > 1))) then some (updateLastOf q cfg cap wired) else none := by
  induction wired generalizing i with
  | nil => rfl
  | cons w rest ih =>
    simp only [mapMI, List.all_cons]
    rw [ih (i + 1) (by simp at hn ⊢; omega)]
    simp only [finAt, posOf_multi n i (by simp at hn; omega)]
    by_cases hc : checkB (decide (n > 1)) w = true
    · cases rest with
      | nil =>
        have : (i + 1 == n) = true := by simp at hn; simp [hn]
        simp [hc, posOf, this, updateLastOf]
      | cons w2 rest2 =>
        have : (i + 1 == n) = false := by simp at hn; simp; omega
        simp only [hc, posOf, this, Bool.true_and, Bool.false_eq_true, if_false, if_true, Option.bind_some]
        split <;> simp [updateLastOf]
    · simp [hc]

theorem final_eq (q : Quirks) (cfg : Cfg) (cap : Cap) (wired : List Spec) :
    Except.toOption (if wired.any (fun s => s.sout = some .pipeAll || s.serr = some .pipeErr) then (.error .needsPipe : Except Err (List Spec))
           else if wired.length > 1 && wired.any (fun s => isAlias s.kind && !s.threadable) then .error .unthreadable
           else .ok (updateLastOf q cfg cap wired)) = mapMI (fun j => finAt q cfg cap (posOf wired.length j)) 0 wired := by
  rw [fin_eq q cfg cap wired 0 wired.length (by simp)]
  have key : ∀ b : Bool, wired.all (checkB b) =
      (!(wired.any (fun s => s.sout = some .pipeAll || s.serr = some .pipeErr)) &&
       !(b && wired.any (fun s => isAlias s.kind && !s.threadable))) := by
    intro b
    induction wired with
    | nil => simp
    | cons w rest ih =>
      simp only [List.all_cons, List.any_cons, ih, checkB]
      cases (w.sout = some .pipeAll || w.serr = some .pipeErr : Bool) <;> cases b <;>
        cases (isAlias w.kind && !w.threadable) <;> simp
  rw [key]
  cases wired.any (fun s => s.sout = some .pipeAll || s.serr = some .pipeErr) <;>
    cases decide (wired.length > 1) <;>
    cases wired.any (fun s => isAlias s.kind && !s.threadable) <;> rfl

theorem buildAll_eq (T : Tables) (ts : Nat → TState) (cfg : Cfg) (stages : List Stage) (i : Nat) :
    Except.toOption (buildAll T ts cfg stages) = mapMI (fun _ st => Except.toOption (buildSpec T ts cfg st)) i stages := by
  induction stages generalizing i with
  | nil => rfl
  | cons st rest ih =>
    simp only [buildAll, mapMI]
    rw [← ih (i + 1)]
    cases buildSpec T ts cfg st with
    | error x => rfl
    | ok s => cases buildAll T ts cfg rest <;> rfl

theorem mapMI_bind {α β γ : Type} (f : Nat → α → Option β) (g : Nat → β → Option γ) (i : Nat) (l : List α) :
    (mapMI f i l).bind (mapMI g i) = mapMI (fun i a => (f i a).bind (g i)) i l := by
  induction l generalizing i with
  | nil => rfl
  | cons a rest ih =>
    simp only [mapMI]
    rw [← ih (i + 1)]
    cases f i a <;> cases mapMI f (i + 1) rest <;> simp [mapMI]

theorem mapMI_length {α β : Type} {f : Nat → α → Option β} {i : Nat} {l : List α} {out : List β}
    (h : mapMI f i l = some out) : out.length = l.length := by
  induction l generalizing i out with
  | nil => cases h; rfl
  | cons a rest ih =>
    simp only [mapMI] at h
    cases hf : f i a <;> cases hr : mapMI f (i + 1) rest <;> rw [hf, hr] at h <;> cases h
    simp [ih hr]

theorem mapMI_getLast {α β : Type} {f : Nat → α → Option β} {i : Nat} {l : List α} {out : List β}
    (h : mapMI f i l = some out) {y : β} (hy : out.getLast? = some y) :
    ∃ k a, l[k]? = some a ∧ k + 1 = l.length ∧ f (i + k) a = some y := by
  induction l generalizing i out with
  | nil => cases h; cases hy
  | cons a rest ih =>
    simp only [mapMI] at h
    cases hf : f i a <;> cases hr : mapMI f (i + 1) rest <;> rw [hf, hr] at h <;> cases h
    rename_i b bs
    cases bs with
    | nil =>
      have : rest = [] := List.eq_nil_of_length_eq_zero (mapMI_length hr).symm
      cases hy
      exact ⟨0, a, rfl, by simp [this], hf⟩
    | cons c cs =>
      rw [List.getLast?_cons_cons] at hy
      obtain ⟨k, x, hk, hlen, hx⟩ := ih hr hy
      exact ⟨k + 1, x, by simpa using hk, by simp [hlen], by rwa [show i + (k + 1) = i + 1 + k by omega]⟩

/-- `cmds_to_specs` past the incoming pipe: the outgoing pipe, the two checks, `_update_last_spec` -/
def afterIn (q : Quirks) (cfg : Cfg) (cap : Cap) (p : Pos) (s : Spec) : Option Spec := (outAt p s).bind (finAt q cfg cap p)

def finalSpec (q : Quirks) (cfg : Cfg) (cap : Cap) (p : Pos) (built : Spec) : Option Spec :=
  (inAt p built).bind (afterIn q cfg cap p)

def stageSpec (T : Tables) (ts : Nat → TState) (q : Quirks) (cfg : Cfg) (cap : Cap) (n i : Nat) (st : Stage) : Option Spec :=
  (Except.toOption (buildSpec T ts cfg st)).bind (finalSpec q cfg cap (posOf n i))

/-- REFINEMENT: cmds_to_specs (three passes over the whole pipeline, first error wins) succeeds iff every stage
succeeds on its own, and then yields the stage-by-stage results -/
theorem cmdsToSpecs_eq (T : Tables) (ts : Nat → TState) (q : Quirks) (cfg : Cfg) (cap : Cap) (stages : List Stage) :
    Except.toOption (cmdsToSpecs T ts q cfg cap stages) = mapMI (stageSpec T ts q cfg cap stages.length) 0 stages := by
  unfold stageSpec finalSpec afterIn
  simp only [← Option.bind_assoc, ← wiredAt.eq_def]
  rw [← mapMI_bind, ← mapMI_bind, ← buildAll_eq]
  unfold cmdsToSpecs
  cases hb : buildAll T ts cfg stages with
  | error x => rfl
  | ok specs =>
    have hl : specs.length = stages.length := by
      have := buildAll_eq T ts cfg stages 0
      rw [hb] at this
      exact mapMI_length this.symm
    simp only [Except.toOption, Option.bind_some]
    rw [← hl, ← wire_eq]
    cases hw : wire specs with
    | error x => rfl
    | ok wired =>
      have hl2 : wired.length = specs.length := by
        have := wire_eq specs
        rw [hw] at this
        exact mapMI_length this.symm
      simp only [Except.toOption, Option.bind_some]
      rw [← hl2]
      exact final_eq q cfg cap wired

end Redir
