/- C14 — the loops of the JSON history GC compute their recursive twins, and what each unit counts is what the oldest-first spec
removes. -/
import XonshVerif.Model.HistGcSpec
namespace HistGc
open Py

theorem loopBreak_congr {α σ : Type} (xs : List α) (s : σ) (f g : α → σ → Except σ σ)
    (h : ∀ x s, f x s = g x s) : loopBreak xs s f = loopBreak xs s g := by
  rw [show f = g from funext fun x => funext (h x)]

theorem sumW_nil (w : F → Int) : sumW w [] = 0 := rfl
theorem sumW_cons (w : F → Int) (f : F) (fs : List F) : sumW w (f :: fs) = w f + sumW w fs := rfl
theorem sumW_append (w : F → Int) (xs ys : List F) : sumW w (xs ++ ys) = sumW w xs + sumW w ys := by
  simp [sumW]
theorem sumW_reverse (w : F → Int) (xs : List F) : sumW w xs.reverse = sumW w xs := by
  rw [sumW, List.map_reverse, List.sum_reverse_int, sumW]

theorem sumW_nonneg (w : F → Int) (xs : List F) (h : ∀ x ∈ xs, 0 ≤ w x) : 0 ≤ sumW w xs := by
  induction xs with
  | nil => exact Int.le_refl 0
  | cons x xs ih =>
    have := h x (by simp)
    have := ih (fun y hy => h y (by simp [hy]))
    rw [sumW_cons]; omega

theorem loop_cum (w : F → Int) (limit : Int) (xs : List F) (n acc : Int) :
    (loopBreak xs (n, acc) (cumBody w limit)).1 = n + fitCount w limit xs acc := by
  induction xs generalizing n acc with
  | nil => simp [loopBreak, fitCount]
  | cons x xs ih =>
    by_cases hx : acc + w x > limit
    · simp [loopBreak, fitCount, cumBody, hx]
    · simp [loopBreak, fitCount, cumBody, hx, ih]; omega

theorem loop_sum (w : F → Int) (xs : List F) (acc : Int) :
    loopBreak xs acc (sumBody w) = acc + sumW w xs := by
  induction xs generalizing acc with
  | nil => simp [loopBreak, sumW]
  | cons x xs ih => simp [loopBreak, sumBody, ih, sumW_cons]; omega

theorem loop_old (limit now : Int) (xs : List F) (n : Int) :
    loopBreak xs n (oldBody limit now) = n + oldCount limit now xs := by
  induction xs generalizing n with
  | nil => simp [loopBreak, oldCount]
  | cons x xs ih =>
    by_cases hx : now - ts x < limit
    · simp [loopBreak, oldCount, oldBody, hx]
    · simp [loopBreak, oldCount, oldBody, hx, ih]; omega

theorem fitCount_le (w : F → Int) (limit : Int) (xs : List F) (acc : Int) :
    fitCount w limit xs acc ≤ xs.length := by
  induction xs generalizing acc with
  | nil => simp [fitCount]
  | cons x xs ih => simp only [fitCount]; split <;> simp; have := ih (acc + w x); omega

theorem oldCount_le (limit now : Int) (xs : List F) : oldCount limit now xs ≤ xs.length := by
  induction xs with
  | nil => simp [oldCount]
  | cons x xs ih => simp only [oldCount]; split <;> simp; omega

theorem fitCount_all (w : F → Int) (limit : Int) (xs : List F) (acc : Int)
    (hn : ∀ x ∈ xs, 0 ≤ w x) (h : acc + sumW w xs ≤ limit) :
    fitCount w limit xs acc = xs.length := by
  induction xs generalizing acc with
  | nil => rfl
  | cons x xs ih =>
    have hs := sumW_nonneg w xs (fun y hy => hn y (by simp [hy]))
    rw [sumW_cons] at h
    rw [fitCount, if_neg (by omega), ih (acc + w x) (fun y hy => hn y (by simp [hy])) (by omega), List.length_cons]
    omega

theorem fitCount_snoc_over (w : F → Int) (limit : Int) (xs : List F) (f : F) (acc : Int)
    (h : acc + sumW w xs + w f > limit) : fitCount w limit (xs ++ [f]) acc = fitCount w limit xs acc := by
  induction xs generalizing acc with
  | nil => simp only [List.nil_append, fitCount, sumW_nil] at h ⊢; rw [if_pos (by omega)]
  | cons x xs ih =>
    rw [sumW_cons] at h
    simp only [List.cons_append, fitCount]
    split
    · rfl
    · rw [ih _ (by omega)]

/-- the newest-first cumulative scan keeps exactly what the oldest-first spec keeps -/
theorem cum_is_spec (u : Units) (w : F → Int) (limit now : Int)
    (hfits : ∀ kept, fits u limit now kept = decide (sumW w kept ≤ limit))
    (files : List F) (hn : ∀ x ∈ files, 0 ≤ w x) :
    files.take (files.length - fitCount w limit files.reverse 0) = specRemoved u limit now files := by
  induction files with
  | nil => rfl
  | cons f fs ih =>
    have hfs : ∀ x ∈ fs, 0 ≤ w x := fun y hy => hn y (by simp [hy])
    simp only [specRemoved, hfits, decide_eq_true_eq]
    split <;> rename_i h
    · rw [fitCount_all w limit _ 0 (fun x hx => hn x (List.mem_reverse.1 hx)) (by rw [sumW_reverse]; omega),
        List.length_reverse, Nat.sub_self, List.take_zero]
    · -- the oldest file does not fit: it goes, and the scan of the others is unaffected
      have hk := fitCount_le w limit fs.reverse 0
      rw [List.length_reverse] at hk
      rw [sumW_cons] at h
      rw [List.reverse_cons, fitCount_snoc_over w limit _ f 0 (by rw [sumW_reverse]; omega), List.length_cons,
        Nat.succ_sub hk, List.take_succ_cons, ih hfs]

theorem old_is_spec (limit now : Int) (files : List F) (hs : SortedTs files) :
    files.take (oldCount limit now files) = specRemoved .seconds limit now files := by
  induction files with
  | nil => rfl
  | cons f fs ih =>
    obtain ⟨hle, hs'⟩ := List.pairwise_cons.mp hs
    rw [oldCount, specRemoved]
    by_cases hy : now - ts f < limit
    · -- the oldest file is young enough: so are all the others
      have : fits .seconds limit now (f :: fs) = true := by
        simp only [fits, List.all_cons, hy, decide_true, Bool.true_and, List.all_eq_true, decide_eq_true_eq]
        intro g hg; have := hle g hg; omega
      rw [if_pos hy, if_pos this, List.take_zero]
    · have : fits .seconds limit now (f :: fs) = false := by simp [fits, hy]
      rw [if_neg hy, if_neg (by simp [this]), Nat.add_comm, List.take_succ_cons, ih hs']

theorem files_spec (n : Nat) (now : Int) (files : List F) :
    specRemoved .files n now files = files.take (files.length - n) := by
  induction files with
  | nil => simp [specRemoved]
  | cons f fs ih =>
    rw [specRemoved, List.length_cons]
    by_cases hf : fs.length + 1 ≤ n
    · rw [if_pos (by simp [fits]; omega), Nat.sub_eq_zero_of_le hf, List.take_zero]
    · rw [if_neg (by simp [fits]; omega), ih, Nat.succ_sub (by omega), List.take_succ_cons]

end HistGc
