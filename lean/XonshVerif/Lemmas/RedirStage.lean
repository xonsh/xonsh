/-
C07 helper lemmas, part 3: a stage with its redirect list (the spec built from its claims, the documented outcome for
its claims) under the one-stage comparison; the pipeline by induction on the stage list.  (model only — no generated tables)
-/
import XonshVerif.Lemmas.RedirCore
import XonshVerif.Lemmas.ListFacts
namespace Redir

theorem buildSpec_eq {T : Tables} {ts : Nat → TState} {cfg : Cfg} {st : Stage} (hg : ∀ p ∈ st.redirs, Good T p) :
    Except.toOption (buildSpec T ts cfg st) =
      if (∀ p ∈ st.redirs, (wellFormed ts p.1 p.2).isSome = true) ∧ Single (wfs ts st.redirs) then
        some (builtOf cfg st.kind ((wfs ts st.redirs).filterMap claimIn).head?
          ((wfs ts st.redirs).filterMap claimOut).head? ((wfs ts st.redirs).filterMap claimErr).head?)
      else none := by
  unfold buildSpec
  by_cases hc : (∀ p ∈ st.redirs, (wellFormed ts p.1 p.2).isSome = true) ∧ Single (wfs ts st.redirs)
  · rw [if_pos hc, (applyRedirs_ok hg).2 ⟨hc, rfl⟩]; rfl
  · rw [if_neg hc]
    cases ha : applyRedirs T ts st.redirs (none, none, none) with
    | error x => rfl
    | ok s => exact absurd ((applyRedirs_ok hg).1 ha).1 hc

theorem specStage_eq (ts : Nat → TState) (cfg : Cfg) (cap : Cap) (n i : Nat) (st : Stage) :
    specStage ts cfg cap n i st =
      if (∀ p ∈ st.redirs, (wellFormed ts p.1 p.2).isSome = true) ∧ Single (wfs ts st.redirs) then
        specCore cfg cap n i st.kind ((wfs ts st.redirs).filterMap claimOut) ((wfs ts st.redirs).filterMap claimErr)
          ((wfs ts st.redirs).filterMap claimIn)
      else .error := by
  have hops : (st.redirs.map fun (p : Str × Loc) => wellFormed ts p.1 p.2).filterMap id = wfs ts st.redirs := by
    simp [wfs, List.filterMap_map]
  have hany : ((st.redirs.map fun (p : Str × Loc) => wellFormed ts p.1 p.2).any Option.isNone = true) ↔
      ¬ ∀ p ∈ st.redirs, (wellFormed ts p.1 p.2).isSome = true := by
    simp [List.any_map]
  unfold specStage
  simp only [hops]
  by_cases hall : ∀ p ∈ st.redirs, (wellFormed ts p.1 p.2).isSome = true
  · rw [if_neg (fun h => hany.1 h hall)]
    by_cases hs : Single (wfs ts st.redirs)
    · rw [if_neg (by unfold Single at hs; omega), if_pos ⟨hall, hs⟩]
    · rw [if_pos (by unfold Single at hs; omega), if_neg (fun h => hs h.2)]
  · rw [if_pos (hany.2 hall), if_neg (fun h => hall h.1)]

def stageP (T : Tables) (ts : Nat → TState) (q : Quirks) (cfg : Cfg) (cap : Cap) (n i : Nat) (st : Stage) :
    Option (List StageOut) :=
  (buildSpec T ts cfg st).toOption.bind (modelStage q cfg cap (posOf n i))

theorem stageP_eq (T : Tables) (ts : Nat → TState) (q : Quirks) (cfg : Cfg) (cap : Cap) (n i : Nat) (st : Stage) :
    stageP T ts q cfg cap n i st = (stageSpec T ts q cfg cap n i st).map fun s => [stageOut q cfg cap s] := by
  unfold stageP stageSpec
  cases (buildSpec T ts cfg st).toOption <;> rfl

def StageR (R : Region) (ts : Nat → TState) (cfg : Cfg) (cap : Cap) (n i : Nat) (st : Stage) : Prop :=
  R cfg cap (posOf n i).last st.kind ((wfs ts st.redirs).filterMap claimOut).head?

theorem stage_ok {q : Quirks} {R : Region} (hcore : CoreOk q R)
    {T : Tables} {ts : Nat → TState} {cfg : Cfg} {cap : Cap} {n i : Nat} {st : Stage}
    (hg : ∀ p ∈ st.redirs, Good T p) (hR : StageR R ts cfg cap n i st) :
    Matches (stageP T ts q cfg cap n i st) (specStage ts cfg cap n i st) ∧
    (stageSpec T ts q cfg cap n i st).all (noCrash q cap (posOf n i).last) = true := by
  rw [specStage_eq]
  unfold stageP stageSpec
  rw [buildSpec_eq hg]
  split
  · rename_i h
    -- the claims, of which there is at most one per stream, as the core lemma wants them: `head?` for the spec, lists for
    -- the documentation
    have key := hcore cfg cap (posOf n i) st.kind ((wfs ts st.redirs).filterMap claimIn).head?
      ((wfs ts st.redirs).filterMap claimOut).head? ((wfs ts st.redirs).filterMap claimErr).head? (pipe_other h.2) hR
    rwa [← head_toList h.2.1, ← head_toList h.2.2.1, ← head_toList h.2.2.2] at key
  · exact ⟨rfl, rfl⟩

def pipeP (T : Tables) (ts : Nat → TState) (q : Quirks) (cfg : Cfg) (cap : Cap) (n : Nat) : Nat → List Stage → Option (List StageOut)
  | _, [] => some []
  | i, st :: rest => (stageP T ts q cfg cap n i st).bind fun a => (pipeP T ts q cfg cap n (i + 1) rest).map (a ++ ·)

theorem pipeP_eq (T : Tables) (ts : Nat → TState) (q : Quirks) (cfg : Cfg) (cap : Cap) (n i : Nat) (stages : List Stage) :
    pipeP T ts q cfg cap n i stages = (mapMI (stageSpec T ts q cfg cap n) i stages).map (List.map (stageOut q cfg cap)) := by
  induction stages generalizing i with
  | nil => rfl
  | cons st rest ih =>
    simp only [pipeP, mapMI, ih, stageP_eq]
    cases stageSpec T ts q cfg cap n i st with
    | none => rfl
    | some s => cases mapMI (stageSpec T ts q cfg cap n) (i + 1) rest <;> rfl

/-- `specFrom` puts the outcome of a stage before that of the rest as `pipeP` does the model's -/
theorem Matches.cons {a b : Option (List StageOut)} {ts : Nat → TState} {cfg : Cfg} {cap : Cap} {n i : Nat} {st : Stage}
    {rest : List Stage} (ha : Matches a (specStage ts cfg cap n i st)) (hb : Matches b (specFrom ts cfg cap n (i + 1) rest)) :
    Matches (a.bind fun x => b.map (x ++ ·)) (specFrom ts cfg cap n i (st :: rest)) := by
  rw [specFrom]
  generalize specStage ts cfg cap n i st = sa at ha
  generalize specFrom ts cfg cap n (i + 1) rest = sb at hb
  cases sa <;> cases sb <;> simp only [Matches] at ha hb ⊢ <;> subst_vars <;> first | trivial | rfl | (cases a <;> rfl)

theorem pipe_ok {q : Quirks} {R : Region} (hcore : CoreOk q R)
    {T : Tables} {ts : Nat → TState} {cfg : Cfg} {cap : Cap} {n : Nat} {stages : List Stage} (i : Nat)
    (hg : ∀ st ∈ stages, ∀ p ∈ st.redirs, Good T p)
    (hR : ∀ k st, stages[k]? = some st → StageR R ts cfg cap n (i + k) st) :
    Matches (pipeP T ts q cfg cap n i stages) (specFrom ts cfg cap n i stages) := by
  induction stages generalizing i with
  | nil => rfl
  | cons st rest ih =>
    refine Matches.cons (stage_ok hcore (hg st (by simp)) (by simpa using hR 0 st (by simp))).1
      (ih (i + 1) (fun s hs => hg s (by simp [hs])) fun k s hs => ?_)
    have := hR (k + 1) s (by simpa using hs)
    rwa [show i + (k + 1) = i + 1 + k by omega] at this

theorem route_ok {q : Quirks} {R : Region} (hcore : CoreOk q R)
    {T : Tables} {ts : Nat → TState} {cfg : Cfg} {cap : Cap} {stages : List Stage}
    (hg : ∀ st ∈ stages, ∀ p ∈ st.redirs, Good T p)
    (hR : ∀ k st, stages[k]? = some st → StageR R ts cfg cap stages.length k st) :
    agrees (route T ts q cfg cap stages) (specRoute ts cfg cap stages) = true := by
  have hR' : ∀ k st, stages[k]? = some st → StageR R ts cfg cap stages.length (0 + k) st := by
    intro k st h; simpa using hR k st h
  have hp := pipe_ok hcore 0 hg hR'
  rw [pipeP_eq, ← cmdsToSpecs_eq] at hp
  unfold specRoute route
  cases hs : specFrom ts cfg cap stages.length 0 stages with
  | unspecified => rfl
  | error =>
    rw [hs] at hp
    obtain ⟨e, he⟩ := toOption_eq_none (Option.map_eq_none_iff.1 hp)
    simp [he, agrees]
  | ok l =>
    rw [hs] at hp
    obtain ⟨specs, h, rfl⟩ := Option.map_eq_some_iff.1 hp
    -- the last spec comes from the last stage
    have hnc : ∀ y, specs.getLast? = some y → noCrash q cap true y = true := by
      intro y hy
      obtain ⟨k, st, hk, hlen, hy⟩ := mapMI_getLast ((cmdsToSpecs_eq ..).symm.trans h) hy
      have := (stage_ok hcore (hg st (List.mem_of_getElem? hk)) (hR' k st hk)).2
      rw [hy] at this
      simpa [posOf, hlen] using this
    rw [toOption_eq_some h]
    simp only []  -- reduces `route`'s `match` on `.ok specs`: `specs.getLast?` now stands in the goal for the `cases`
    cases hl : specs.getLast? with
    | none => simp [List.getLast?_eq_none_iff.1 hl, agrees]
    | some last =>
      have := hnc last hl
      simp only [noCrash, Bool.and_eq_true, Bool.not_eq_true', Bool.true_and] at this
      simp [this.1, this.2, agrees]

/-! ## the tables enter only through the decoding of the operators that occur -/

theorem applyRedirs_congr {T T' : Tables} (ts : Nat → TState) {rs : List (Str × Loc)}
    (h : ∀ p ∈ rs, classify T p.1 = classify T' p.1) (s : Slots) : applyRedirs T ts rs s = applyRedirs T' ts rs s := by
  induction rs generalizing s with
  | nil => rfl
  | cons p rest ih =>
    obtain ⟨r, loc⟩ := p
    obtain ⟨i, o, e⟩ := s
    have hr : redirectStreams T ts r loc = redirectStreams T' ts r loc := by
      simp only [redirectStreams, h (r, loc) (by simp)]
    simp only [applyRedirs, hr, ih (fun q hq => h q (by simp [hq]))]

theorem classify_filter (T : Tables) (f : Str → Bool) (r : Str) (h : f (stripFinalNewline r) = true) :
    classify { T with regex := T.regex.filter fun row => f row.1 } r = classify T r := by
  simp only [classify, regexMatch, List.lookup_filter_key, h, if_true]; rfl

theorem route_congr {T T' : Tables} (ts : Nat → TState) (q : Quirks) (cfg : Cfg) (cap : Cap) {stages : List Stage}
    (h : ∀ st ∈ stages, ∀ p ∈ st.redirs, classify T p.1 = classify T' p.1) :
    route T ts q cfg cap stages = route T' ts q cfg cap stages := by
  have hb : buildAll T ts cfg stages = buildAll T' ts cfg stages := by
    induction stages with
    | nil => rfl
    | cons st rest ih =>
      simp only [buildAll, buildSpec, applyRedirs_congr ts (h st (by simp)), ih (fun s hs => h s (by simp [hs]))]
  simp only [route, cmdsToSpecs, hb]

end Redir
