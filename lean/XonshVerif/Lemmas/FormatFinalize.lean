/-
The per-line strip of `_finalize` has three forms (`stripTrailFrom`, `stripSepFrom`, `stripMarkedFrom`): they are
tied together once, so that what is proved of one holds of the others.
-/
import XonshVerif.Model.Format

namespace Format

/-- "a line end or the end of the text follows", seen from in front of `t` when `e` says so of what follows `t` -/
def headFlag (e : Bool) : Str → Bool
  | [] => e
  | c :: _ => decide (c = '\n')

abbrev atEol (T : Str) : Bool := headFlag true T

theorem stripTrailFrom_cons (T : Str) (c : Char) (cs : Str) :
    stripTrailFrom T (c :: cs) =
      if isBlank c && atEol (stripTrailFrom T cs) then stripTrailFrom T cs else c :: stripTrailFrom T cs := rfl

theorem stripTrail_cons (c : Char) (cs : Str) :
    stripTrail (c :: cs) = if isBlank c && atEol (stripTrail cs) then stripTrail cs else c :: stripTrail cs := rfl

theorem stripSepFrom_cons (e : Bool) (c : Char) (cs : Str) :
    stripSepFrom e (c :: cs) =
      if isBlank c && (stripSepFrom e cs).2 then stripSepFrom e cs
      else (c :: (stripSepFrom e cs).1, decide (c = '\n')) := rfl

theorem tokClean_cons (c : Char) (r : Str) : tokClean (c :: r) = (!(isBlank c && atEol r) && tokClean r) := by
  cases r <;> simp [tokClean, headFlag]

theorem stripTrailFrom_append (T t rest : Str) :
    stripTrailFrom T (t ++ rest) = stripTrailFrom (stripTrailFrom T rest) t := by
  induction t with
  | nil => rfl
  | cons c cs ih => simp only [List.cons_append, stripTrailFrom_cons, ih]

theorem stripTrailFrom_eq (T s : Str) :
    stripTrailFrom T s = (stripSepFrom (atEol T) s).1 ++ T ∧
    atEol (stripTrailFrom T s) = (stripSepFrom (atEol T) s).2 := by
  induction s with
  | nil => exact ⟨rfl, rfl⟩
  | cons c cs ih =>
    rw [stripTrailFrom_cons, stripSepFrom_cons, ih.2]
    split
    · exact ih
    · exact ⟨congrArg (c :: ·) ih.1, rfl⟩

theorem stripTrail_eq (s : Str) : stripTrail s = (stripSepFrom true s).1 :=
  ((stripTrailFrom_eq [] s).1).trans (List.append_nil _)

theorem atEol_of_headFlag {e : Bool} {t : Str} (h : headFlag e t = true) : atEol t = true := by
  cases t
  · rfl
  · exact h

theorem stripSepFrom_clean (e : Bool) {t : Str} (h : tokClean t = true) : stripSepFrom e t = (t, headFlag e t) := by
  induction t with
  | nil => rfl
  | cons c cs ih =>
    rw [tokClean_cons, Bool.and_eq_true, Bool.not_eq_true'] at h
    rw [stripSepFrom_cons, ih h.2, if_neg]
    · rfl
    · -- a line end seen with `e` is one seen with `true`, where `tokClean` allows no blank
      rw [Bool.and_eq_true]
      rintro ⟨hb, he⟩
      rw [hb, atEol_of_headFlag he] at h
      cases h.1

theorem stripTrailFrom_clean (T : Str) {t : Str} (h : tokClean t = true) : stripTrailFrom T t = t ++ T := by
  rw [(stripTrailFrom_eq T t).1, stripSepFrom_clean _ h]

theorem stripTrail_clean {t : Str} (h : tokClean t = true) : stripTrail t = t :=
  (stripTrailFrom_clean [] h).trans (List.append_nil t)

theorem stripTrail_is_clean (s : Str) : tokClean (stripTrail s) = true := by
  induction s with
  | nil => rfl
  | cons c cs ih =>
    rw [stripTrail_cons]
    split
    · exact ih
    · rename_i h; rw [tokClean_cons, ih, Bool.eq_false_iff.mpr h]; rfl

theorem rstripNl_cons (c : Char) (cs : Str) :
    rstripNl (c :: cs) = if rstripNl cs = [] ∧ c = '\n' then [] else c :: rstripNl cs := by
  rw [rstripNl]; split <;> simp_all

theorem rstripNl_spec (x : Str) : ∃ n, x = rstripNl x ++ List.replicate n '\n' := by
  induction x with
  | nil => exact ⟨0, rfl⟩
  | cons c cs ih =>
    obtain ⟨n, hn⟩ := ih
    rw [rstripNl_cons]
    split
    next h =>
      rw [h.1] at hn
      exact ⟨n + 1, h.2 ▸ congrArg ('\n' :: ·) hn⟩
    next => exact ⟨n, congrArg (c :: ·) hn⟩

theorem rstripNl_nls (n : Nat) : rstripNl (List.replicate n '\n') = [] := by
  induction n with
  | zero => rfl
  | succ n ih => rw [List.replicate_succ, rstripNl_cons, if_pos ⟨ih, rfl⟩]

theorem rstripNl_append_nls (x : Str) (n : Nat) : rstripNl (x ++ List.replicate n '\n') = rstripNl x := by
  induction x with
  | nil => exact rstripNl_nls n
  | cons c cs ih => simp only [List.cons_append, rstripNl_cons, ih]

theorem rstripNl_idem (x : Str) : rstripNl (rstripNl x) = rstripNl x := by
  obtain ⟨n, hn⟩ := rstripNl_spec x
  conv => rhs; rw [hn, rstripNl_append_nls]

theorem stripTrail_nls (n : Nat) : stripTrail (List.replicate n '\n') = List.replicate n '\n' := by
  induction n with
  | zero => rfl
  | succ n ih => rw [List.replicate_succ, stripTrail_cons, ih]; rfl

theorem atEol_nls (n : Nat) : atEol (List.replicate n '\n') = true := by cases n <;> rfl

theorem stripTrail_append_nls (x : Str) (n : Nat) :
    stripTrail (x ++ List.replicate n '\n') = stripTrail x ++ List.replicate n '\n' := by
  rw [stripTrail, stripTrailFrom_append, ← stripTrail, stripTrail_nls, (stripTrailFrom_eq _ x).1, atEol_nls,
    stripTrail_eq]

theorem stripTrail_rstripNl {x : Str} (hx : stripTrail x = x) : stripTrail (rstripNl x) = rstripNl x := by
  obtain ⟨m, hm⟩ := rstripNl_spec x
  have h : stripTrail (rstripNl x ++ List.replicate m '\n') = rstripNl x ++ List.replicate m '\n' := by
    rw [← hm]; exact hx
  rw [stripTrail_append_nls] at h
  exact List.append_cancel_right h

theorem finalTail_nls (e : Bool) (b : Str) : ∃ n, finalTail e b = List.replicate n '\n' := by
  unfold finalTail; split
  · exact ⟨2, rfl⟩
  · exact ⟨1, rfl⟩

theorem finalizeV_body (e : Bool) (s : Str) : rstripNl (stripTrail (finalizeV e s)) = rstripNl (stripTrail s) := by
  obtain ⟨n, hn⟩ := finalTail_nls e (rstripNl (stripTrail s))
  rw [finalizeV, hn, stripTrail_append_nls, stripTrail_rstripNl (stripTrail_clean (stripTrail_is_clean s)),
    rstripNl_append_nls, rstripNl_idem]

theorem markSep_flatten (ps : List Piece) : markSep (flatten ps) = ps.flatMap fun p => markSep p.text := by
  simp [markSep, flatten, List.map_flatMap]

theorem stripMarkedFrom_cons (R : Str) (e : Bool) (c : Char) (k : Bool) (cs : List (Char × Bool)) :
    stripMarkedFrom R e ((c, k) :: cs) =
      if isBlank c && (stripMarkedFrom R e cs).2 then stripMarkedFrom R e cs
      else (c :: (stripMarkedFrom R e cs).1, decide (c = '\n') && !k) := rfl

theorem stripMarkedFrom_append (R : Str) (e : Bool) (a b : List (Char × Bool)) :
    stripMarkedFrom R e (a ++ b) = stripMarkedFrom (stripMarkedFrom R e b).1 (stripMarkedFrom R e b).2 a := by
  induction a with
  | nil => rfl
  | cons x xs ih => obtain ⟨c, k⟩ := x; simp only [List.cons_append, stripMarkedFrom_cons, ih]

theorem stripMarkedFrom_sep (R : Str) (e : Bool) (t : Str) :
    stripMarkedFrom R e (markSep t) = ((stripSepFrom e t).1 ++ R, (stripSepFrom e t).2) := by
  induction t with
  | nil => rfl
  | cons c cs ih =>
    rw [markSep, List.map_cons, ← markSep, stripMarkedFrom_cons, ih, stripSepFrom_cons]
    split <;> simp

theorem stripMarkedFrom_unmarked (s : Str) : (stripMarkedFrom [] true (markSep s)).1 = stripTrail s := by
  rw [stripMarkedFrom_sep, stripTrail_eq, List.append_nil]

/-- a token text that does not end in a blank -/
def endClean (t : Str) : Bool := match t.getLast? with | some c => !isBlank c | none => true

/-- the rest of such a text is one too, and a blank `c` is not its last character: so the test `stripMarkedFrom_cons` makes
at `c` fails, `cs.isEmpty && e` being the flag behind `cs` (`stripMarkedFrom_inside`) -/
theorem endClean_cons {c : Char} {cs : Str} (h : endClean (c :: cs) = true) :
    endClean cs = true ∧ ∀ e, (isBlank c && (cs.isEmpty && e)) = false := by
  cases cs <;> simp_all [endClean]

/-- the inside of a token: every line end marked -/
theorem stripMarkedFrom_inside (R : Str) (e : Bool) {cs : Str} (h : endClean cs = true) :
    stripMarkedFrom R e (cs.map fun d => (d, true)) = (cs ++ R, cs.isEmpty && e) := by
  induction cs with
  | nil => rfl
  | cons c r ih =>
    rw [List.map_cons, stripMarkedFrom_cons, ih (endClean_cons h).1, (endClean_cons h).2]
    simp

theorem stripMarkedFrom_tok (R : Str) (e : Bool) {t : Str} (h : endClean t = true) :
    stripMarkedFrom R e (markTok t) = (t ++ R, headFlag e t) := by
  cases t with
  | nil => rfl
  | cons c cs =>
    rw [markTok, stripMarkedFrom_cons, stripMarkedFrom_inside R e (endClean_cons h).1, (endClean_cons h).2]
    simp [headFlag]

/-- The strip of the whole output, piece by piece: when it copies every token text (marked by `mk`), it is
`stripSeps`, which edits separators only. -/
theorem stripMarked_pieces (mk : Str → List (Char × Bool)) (ps : List Piece)
    (h : ∀ p ∈ ps, p.isTok = true → ∀ R e, stripMarkedFrom R e (mk p.text) = (p.text ++ R, headFlag e p.text)) :
    stripMarkedFrom [] true (ps.flatMap fun p => if p.isTok then mk p.text else markSep p.text) =
      (flatten (stripSeps ps).1, (stripSeps ps).2) := by
  induction ps with
  | nil => rfl
  | cons p ps ih =>
    rw [List.flatMap_cons, stripMarkedFrom_append, ih fun q hq => h q (List.mem_cons_of_mem _ hq), stripSeps]
    cases hp : p.isTok
    · simp only [Bool.false_eq_true, if_false]; rw [stripMarkedFrom_sep]; rfl
    · simp only [if_true]; rw [h p (List.mem_cons_self ..) hp]; rfl

/-- the snapshot's strip: `stripTrail` is the marked strip with nothing marked (`stripMarkedFrom_unmarked`), so this is
`stripMarked_pieces` with the tokens marked like separators (`mk := markSep`): such a strip copies a clean token text -/
theorem stripSeps_spec (ps : List Piece) (h : ∀ p ∈ ps, p.isTok = true → tokClean p.text = true) :
    flatten (stripSeps ps).1 = stripTrail (flatten ps) := by
  have := stripMarked_pieces markSep ps fun p hp ht R e => by
    rw [stripMarkedFrom_sep, stripSepFrom_clean e (h p hp ht)]
  -- both branches of its `if p.isTok` are `markSep p.text` now: together the marking of `flatten ps` (`markSep_flatten`)
  simp only [ite_self] at this
  rw [← stripMarkedFrom_unmarked, markSep_flatten, this]

theorem stripSeps_toks (ps : List Piece) : (stripSeps ps).1.filter (·.isTok) = ps.filter (·.isTok) := by
  induction ps with
  | nil => rfl
  | cons p ps ih =>
    rw [stripSeps]
    cases hp : p.isTok <;> simp [hp, ih]

theorem stripWs_append (a b : Str) : stripWs (a ++ b) = stripWs a ++ stripWs b := List.filter_append ..

theorem stripWs_cons (c : Char) (s : Str) :
    stripWs (c :: s) = if isPySpace c then stripWs s else c :: stripWs s := by
  simp only [stripWs, List.filter_cons]; cases isPySpace c <;> rfl

theorem stripWs_allWs {s : Str} (h : allWs s = true) : stripWs s = [] := by
  simp only [allWs, List.all_eq_true] at h
  simpa [stripWs, List.filter_eq_nil_iff] using h

theorem flatten_cons (p : Piece) (ps : List Piece) : flatten (p :: ps) = p.text ++ flatten ps := rfl

theorem toksOf_cons (p : Piece) (ps : List Piece) :
    toksOf (p :: ps) = (if p.isTok then p.text else []) ++ toksOf ps := by
  cases h : p.isTok <;> simp [toksOf, h]

theorem stripWs_flatten (ps : List Piece) (h : ∀ p ∈ ps, p.isTok = false → allWs p.text = true) :
    stripWs (flatten ps) = stripWs (toksOf ps) := by
  induction ps with
  | nil => rfl
  | cons p ps ih =>
    rw [flatten_cons, toksOf_cons, stripWs_append, stripWs_append, ih fun q hq => h q (List.mem_cons_of_mem _ hq)]
    cases hi : p.isTok
    · rw [stripWs_allWs (h p (List.mem_cons_self ..) hi)]; rfl
    · rfl

theorem isBlank_isPySpace {c : Char} (h : isBlank c = true) : isPySpace c = true := by
  simp only [isBlank, Bool.or_eq_true, decide_eq_true_eq] at h
  rcases h with rfl | rfl <;> decide

theorem map_fst_markSep (t : Str) : (markSep t).map Prod.fst = t := by
  simp [markSep, Function.comp_def]

theorem map_fst_markTok (t : Str) : (markTok t).map Prod.fst = t := by
  cases t <;> simp [markTok, Function.comp_def]

theorem map_fst_marked (ps : List Piece) : (marked ps).map Prod.fst = flatten ps := by
  rw [marked, flatten, List.map_flatMap]
  congr; funext p
  split
  · exact map_fst_markTok _
  · exact map_fst_markSep _

theorem stripWs_stripMarkedFrom (R : Str) (e : Bool) (m : List (Char × Bool)) :
    stripWs (stripMarkedFrom R e m).1 = stripWs (m.map Prod.fst) ++ stripWs R := by
  induction m with
  | nil => rfl
  | cons x xs ih =>
    obtain ⟨c, k⟩ := x
    rw [stripMarkedFrom_cons, List.map_cons, stripWs_cons]
    split
    · rename_i h
      rw [ih, if_pos (isBlank_isPySpace (Bool.and_eq_true_iff.mp h).1)]
    · rw [stripWs_cons, ih]; split <;> rfl

theorem stripWs_stripTrail (s : Str) : stripWs (stripTrail s) = stripWs s := by
  have := stripWs_stripMarkedFrom [] true (markSep s)
  rw [stripMarkedFrom_unmarked, map_fst_markSep] at this
  exact this.trans (List.append_nil _)

theorem stripWs_rstripNl (x : Str) : stripWs (rstripNl x) = stripWs x := by
  obtain ⟨n, hn⟩ := rstripNl_spec x
  conv => rhs; rw [hn, stripWs_append]
  rw [stripWs_allWs (s := List.replicate n '\n'), List.append_nil]
  exact List.all_eq_true.mpr fun c hc => List.eq_of_mem_replicate hc ▸ by decide

theorem stripWs_lstrip (s : Str) : stripWs (lstrip s) = stripWs s := by
  induction s with
  | nil => rfl
  | cons c cs ih =>
    rw [lstrip, List.dropWhile_cons, stripWs_cons]
    split
    · exact ih
    · rw [stripWs_cons, if_neg ‹_›]

theorem stripWs_finalTail (e : Bool) (b : Str) : stripWs (finalTail e b) = [] := by
  unfold finalTail; split <;> rfl

theorem stripWs_tail (e : Bool) (x : Str) : stripWs (rstripNl x ++ finalTail e (rstripNl x)) = stripWs x := by
  rw [stripWs_append, stripWs_rstripNl, stripWs_finalTail, List.append_nil]

end Format
