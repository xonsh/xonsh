/-
C02: with every mechanism repaired (`Fixes.all`) no guard is ever violated (`Rec.g` is constantly true).
-/
import XonshVerif.Lemmas.ScopeRun
namespace Scope

theorem all_dotted : Fixes.all.dotted = true := rfl
theorem all_walrus : Fixes.all.walrus = true := rfl
theorem all_lam : Fixes.all.lam = true := rfl
theorem all_comp : Fixes.all.comp = true := rfl
theorem all_delB : Fixes.all.delB = true := rfl
theorem all_nested : Fixes.all.nested = true := rfl
theorem all_handler : Fixes.all.handler = true := rfl

mutual
theorem gV_all : ∀ e : Expr, gV Fixes.all e = true
  | .name _ | .const _ | .boolop _ | .unary _ => rfl
  | .node _ cs => gVL_all cs
  | .lam _ b => Bool.and_eq_true_iff.mpr ⟨gV_all b, rfl⟩
  | .comp elt _ _ _ => Bool.and_eq_true_iff.mpr ⟨gV_all elt, rfl⟩
  | .walrus _ v => gV_all v
theorem gVL_all : ∀ es : Exprs, gVL Fixes.all es = true
  | .nil => rfl
  | .cons e es => Bool.and_eq_true_iff.mpr ⟨gV_all e, gVL_all es⟩
end

theorem gExprs_all (es : Exprs) : gExprs Fixes.all es = true := Bool.and_eq_true_iff.mpr ⟨gVL_all es, rfl⟩
theorem gHeader_all (es : Exprs) : gHeader Fixes.all es = true := Bool.and_eq_true_iff.mpr ⟨gVL_all es, rfl⟩
theorem gExprStmt_all (e : Expr) : gExprStmt Fixes.all e = true := rfl

theorem gDel_all (B U : List Name) : ∀ (xs : List Name) (s : Sp), gDel ⟨B, U, Fixes.all⟩ s xs = true
  | [], _ => rfl
  | _ :: xs, _ => Bool.and_eq_true_iff.mpr ⟨rfl, gDel_all B U xs _⟩

/-- records and final state of a walk that started with `g = true` -/
def GAll (st : St) (r : List Rec × St) : Prop := st.g = true → (∀ rec ∈ r.1, rec.g = true) ∧ r.2.g = true

theorem GAll.seq {st : St} {r1 r2 : List Rec × St} (h1 : GAll st r1) (h2 : GAll r1.2 r2) : GAll st (r1.1 ++ r2.1, r2.2) :=
  fun hg => ⟨fun rec hr => (List.mem_append.mp hr).elim ((h1 hg).1 rec) ((h2 (h1 hg).2).1 rec), (h2 (h1 hg).2).2⟩

theorem gAll_seq {f g : Step} (hf : ∀ st, GAll st (f st)) (hg : ∀ st, GAll st (g st)) : ∀ st, GAll st (seq f g st) :=
  fun st => (hf st).seq (hg _)

theorem GAll.one {st st' : St} {r : Rec} (hr : r.g = st'.g) (h : st.g = true → st'.g = true) : GAll st ([r], st') :=
  fun hg => ⟨fun _ hm => by rw [List.mem_singleton.mp hm, hr]; exact h hg, h hg⟩

theorem hdr_gAll {B U : List Name} {sid : Nat} {es : Exprs} {ys zs rs : List Name} (st : St) :
    GAll st (hdr ⟨B, U, Fixes.all⟩ sid es ys zs rs true st) :=
  GAll.one rfl fun hg => Bool.and_eq_true_iff.mpr ⟨Bool.and_eq_true_iff.mpr ⟨hg, gExprs_all es⟩, rfl⟩

theorem fdef_gAll {B U : List Name} {sid : Nat} {f : Name} {ps : List Name} {dfl : Exprs} {body : Stmts} {decos : Exprs}
    (hb : ∀ st, GAll st (runL ⟨B, U, Fixes.all⟩ st body)) (st : St) :
    GAll st (runS ⟨B, U, Fixes.all⟩ st (.fdef sid f ps dfl body decos)) :=
  gAll_seq (f := enter _ sid f ps dfl decos) (fun _ => GAll.one rfl fun hg => Bool.and_eq_true_iff.mpr ⟨hg, gHeader_all _⟩)
    (gAll_seq hb (g := leave _ sid _ decos) fun _ => GAll.one rfl id) st

mutual
theorem runS_gAll (B U : List Name) : ∀ (s : Stmt) (st : St), GAll st (runS ⟨B, U, Fixes.all⟩ st s)
  | .expr _ e => fun _ => GAll.one rfl fun hg => Bool.and_eq_true_iff.mpr ⟨hg, gExprStmt_all e⟩
  | .assign .. => fun st => runS_assign ▸ hdr_gAll st
  | .annassign .. => fun st => runS_annassign ▸ hdr_gAll st
  | .augassign .. => fun st => runS_augassign ▸ hdr_gAll st
  | .ret .. => fun st => runS_ret ▸ hdr_gAll st
  | .imp .. | .impFrom .. => fun _ => GAll.one rfl fun hg => Bool.and_eq_true_iff.mpr ⟨hg, subset_refl _⟩
  | .global_ .. | .pass _ => fun _ => GAll.one rfl id
  | .del .. => fun _ => GAll.one rfl fun hg => Bool.and_eq_true_iff.mpr ⟨hg, gDel_all B U _ _⟩
  | .fdef _ _ _ _ body _ => fdef_gAll (runL_gAll B U body)
  | .cdef _ _ _ body _ => fdef_gAll (ps := []) (runL_gAll B U body)
  | .for_ _ _ _ body orelse => fun st => runS_for ▸ gAll_seq hdr_gAll (gAll_seq (runL_gAll B U body) (runL_gAll B U orelse)) st
  | .while_ _ _ body orelse | .if_ _ _ body orelse => fun st =>
      runS_if ▸ gAll_seq hdr_gAll (gAll_seq (runL_gAll B U body) (runL_gAll B U orelse)) st
  | .with_ _ _ _ body => fun st => runS_with ▸ gAll_seq hdr_gAll (runL_gAll B U body) st
  | .try_ _ body hs orelse final => fun st => runS_try ▸
      gAll_seq (runL_gAll B U body) (gAll_seq (runH_gAll B U hs) (gAll_seq (runL_gAll B U orelse) (runL_gAll B U final)))
        { st with c := st.c.addTop hs.names }
theorem runL_gAll (B U : List Name) : ∀ (ss : Stmts) (st : St), GAll st (runL ⟨B, U, Fixes.all⟩ st ss)
  | .nil => fun _ hg => ⟨fun _ hr => (nomatch hr), hg⟩
  | .cons s ss => fun st => runL_cons ▸ gAll_seq (runS_gAll B U s) (runL_gAll B U ss) st
theorem runH_gAll (B U : List Name) : ∀ (hs : Handlers) (st : St), GAll st (runH ⟨B, U, Fixes.all⟩ st hs)
  | .nil => fun _ hg => ⟨fun _ hr => (nomatch hr), hg⟩
  | .cons _ _ _ body rest => fun st => runH_cons ▸ gAll_seq hdr_gAll (gAll_seq (runL_gAll B U body) (runH_gAll B U rest)) st
end

end Scope
