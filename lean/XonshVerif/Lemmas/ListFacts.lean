/-
Facts about lists that core does not have and several properties need: association lists read with `List.lookup` and
written as a dict (`(k, v) :: l.filter (·.1 != k)`), the first hit of a test, maps that copy their input, `dropWhile` /
`takeWhile` at the first element that fails the test, injectivity of a finite table, and two lists appended (`Nodup` of
the images, the last element).
-/
namespace List

/-- a filter on the keys keeps every entry of a key or drops them all -/
theorem lookup_filter_key {α : Type u} {β : Type v} [BEq α] [LawfulBEq α] (f : α → Bool) (l : List (α × β)) (k : α) :
    (l.filter fun p => f p.1).lookup k = if f k = true then l.lookup k else none := by
  induction l with
  | nil => simp
  | cons p ps ih =>
    obtain ⟨a, b⟩ := p
    by_cases hk : (k == a) = true
    · obtain rfl := eq_of_beq hk
      cases hf : f k <;> simp [hf, ih]
    · cases hf : f a <;> simp [hf, List.lookup_cons, hk, ih]

section
variable {α : Type u} {β : Type v} [DecidableEq α]

theorem lookup_cons_ite (l : List (α × β)) (a k : α) (b : β) :
    ((a, b) :: l).lookup k = if k = a then some b else l.lookup k := by
  rw [List.lookup_cons]
  by_cases h : k = a
  · rw [if_pos h, beq_iff_eq.mpr h]
  · rw [if_neg h, beq_eq_false_iff_ne.mpr h]

theorem lookup_filter_ne (l : List (α × β)) (k k' : α) :
    (l.filter (fun p => p.1 != k)).lookup k' = if k' = k then none else l.lookup k' := by
  simp only [lookup_filter_key (· != k), bne_iff_ne, ne_eq, ite_not]

/-- the dict update `d[k] = v` -/
theorem lookup_cons_filter_ne (l : List (α × β)) (k k' : α) (v : β) :
    ((k, v) :: l.filter (fun p => p.1 != k)).lookup k' = if k' = k then some v else l.lookup k' := by
  rw [lookup_cons_ite, lookup_filter_ne]
  split <;> rfl

theorem mem_of_lookup_eq_some {l : List (α × β)} {k : α} {v : β} (h : l.lookup k = some v) : (k, v) ∈ l := by
  obtain ⟨l₁, l₂, rfl, -⟩ := List.lookup_eq_some_iff.1 h
  exact List.mem_append_right _ List.mem_cons_self

theorem lookup_eq_none_of_not_mem_keys {l : List (α × β)} {k : α} (h : k ∉ l.map (·.1)) : l.lookup k = none := by
  rw [List.lookup_eq_none_iff]
  intro p hp
  simpa using fun e : k = p.1 => h (e ▸ List.mem_map_of_mem hp)

theorem lookup_eq_some_iff_mem {l : List (α × β)} (hn : (l.map (·.1)).Nodup) {k : α} {v : β} :
    l.lookup k = some v ↔ (k, v) ∈ l := by
  refine ⟨mem_of_lookup_eq_some, fun hm => ?_⟩
  obtain ⟨l₁, l₂, rfl⟩ := List.append_of_mem hm
  rw [List.map_append, List.nodup_append] at hn
  -- no entry in front of `(k, v)` has the key `k`
  exact List.lookup_eq_some_iff.mpr ⟨l₁, l₂, rfl, fun p hp => bne_iff_ne.mpr fun e =>
    hn.2.2 _ (List.mem_map_of_mem hp) k (by simp) e.symm⟩

/-- a dict read does not depend on the order of the entries -/
theorem lookup_perm {l l' : List (α × β)} (hp : l.Perm l') (hn : (l.map (·.1)).Nodup) (k : α) :
    l.lookup k = l'.lookup k := by
  have hn' : (l'.map (·.1)).Nodup := (hp.map Prod.fst).nodup_iff.1 hn
  apply Option.ext
  intro v
  rw [lookup_eq_some_iff_mem hn, lookup_eq_some_iff_mem hn', hp.mem_iff]

end

theorem find?_congr {α} (l : List α) (p q : α → Bool) (h : ∀ x ∈ l, p x = q x) : l.find? p = l.find? q := by
  induction l with
  | nil => rfl
  | cons a as ih =>
    simp only [List.forall_mem_cons] at h
    rw [List.find?_cons, List.find?_cons, h.1, ih h.2]

theorem map_id_of_forall {α} (f : α → α) (l : List α) (h : ∀ x ∈ l, f x = x) : l.map f = l :=
  (List.map_congr_left h).trans l.map_id

theorem flatMap_eq_map {α β} (f : α → List β) (g : α → β) (l : List α) (h : ∀ a ∈ l, f a = [g a]) :
    l.flatMap f = l.map g := by
  induction l with
  | nil => rfl
  | cons a as ih =>
    rw [List.flatMap_cons, h a (List.mem_cons_self ..), ih fun x hx => h x (List.mem_cons_of_mem _ hx)]; rfl

theorem flatMap_eq_self {α} (f : α → List α) (l : List α) (h : ∀ a ∈ l, f a = [a]) : l.flatMap f = l :=
  (flatMap_eq_map f id l h).trans l.map_id

theorem dropWhile_id {α} (p : α → Bool) (l : List α) (h : ∀ x, l.head? = some x → p x = false) : l.dropWhile p = l := by
  cases l with
  | nil => rfl
  | cons a as => simp [List.dropWhile, h a rfl]

theorem takeWhile_cons_drop {α} [BEq α] [LawfulBEq α] (a : α) (s : List α) (h : s.contains a = true) :
    s.takeWhile (· != a) ++ a :: (s.dropWhile (· != a)).drop 1 = s := by
  induction s with
  | nil => cases h
  | cons c cs ih =>
    by_cases hc : c = a
    · simp [hc]
    · rw [List.contains_cons, Bool.or_eq_true, beq_iff_eq] at h
      have hne : (c != a) = true := by simpa using hc
      rw [List.takeWhile_cons, List.dropWhile_cons, hne]
      exact congrArg (c :: ·) (ih (h.resolve_left (Ne.symm hc)))

/-- for a table checked by evaluation: `Nodup` of the images compares them with each other once, the statement over pairs
would compute them for every pair -/
theorem inj_of_nodup_map {α β} {f : α → β} {l : List α} (h : (l.map f).Nodup) : ∀ a ∈ l, ∀ b ∈ l, f a = f b → a = b := by
  have hp : l.Pairwise (fun a b => f a = f b → a = b) := (List.pairwise_map.1 h).imp (fun hne e => absurd e hne)
  exact fun a ha b hb =>
    List.Pairwise.forall_of_forall_of_flip (fun _ _ _ => rfl) hp (hp.imp fun h e => (h e.symm).symm) ha hb

theorem map_ne_of_nodup_append {α β} {f : α → β} {l₁ l₂ : List α} (h : ((l₁ ++ l₂).map f).Nodup) {a b : α} (ha : a ∈ l₁)
    (hb : b ∈ l₂) : f a ≠ f b := by
  rw [map_append, nodup_append] at h
  exact h.2.2 _ (mem_map_of_mem ha) _ (mem_map_of_mem hb)

theorem getLast?_append_of_ne_nil {α} (l₁ : List α) {l₂ : List α} (h : l₂ ≠ []) : (l₁ ++ l₂).getLast? = l₂.getLast? := by
  rw [getLast?_append]
  cases hz : l₂.getLast? with
  | none => exact absurd (getLast?_eq_none_iff.1 hz) h
  | some z => rfl

end List
