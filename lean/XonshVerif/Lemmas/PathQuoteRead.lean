/-
C18, the reader's side: how `readBack` consumes what the completer wrote.  A literal body is described by
what the tokenizer sees of it (`Toks`: escape pairs and single characters at none of which the closing quote
begins) and, for a non-raw literal, by the value it denotes (`Lit`).  The last part is the bare-word half: a name left
unquoted is read back as itself (`readBack_bare`, `readBack_plain`: the lemmas of `C18_needs_quotes_sound`; the lemma of
`C18_unquoted_is_plain`, `plain_chars`, is about the completer's tables and stands in Lemmas/PathQuote.lean).
-/
import XonshVerif.Lemmas.PathQuote
namespace PathQuote

theorem take2_beq (q : Char) (r : Str) : (r.take 2 == [q, q]) = [q, q].isPrefixOf r := by
  rw [Bool.eq_iff_iff, beq_iff_eq, List.isPrefixOf_iff_prefix, List.prefix_iff_eq_take]
  exact eq_comm

theorem lineBreak_cases {c : Char} (h : isLineBreak c = true) :
    escapedCtrl.contains c = true ∨ unescapedBreaks.contains c = true := by
  unfold isLineBreak at h
  simp only [Bool.or_eq_true, beq_iff_eq] at h
  rcases h with ((((((((h | h) | h) | h) | h) | h) | h) | h) | h) | h <;> subst h <;> decide

theorem simpleEscape_noBreak {c d : Char} (h : simpleEscape c = some d) : isLineBreak c = false :=
  Bool.eq_false_iff.mpr fun hb => by
    have : simpleEscape c = none := by
      rcases lineBreak_cases hb with hc | hc
      · exact (by decide : ∀ c ∈ escapedCtrl, simpleEscape c = none) c (List.contains_iff_mem.mp hc)
      · exact (by decide : ∀ c ∈ unescapedBreaks, simpleEscape c = none) c (List.contains_iff_mem.mp hc)
    rw [this] at h; cases h

theorem not_lineBreak {c : Char} (h1 : escapedCtrl.contains c = false) (h2 : unescapedBreaks.contains c = false) :
    isLineBreak c = false :=
  Bool.eq_false_iff.mpr fun h => by
    rcases lineBreak_cases h with h | h
    · rw [h1] at h; cases h
    · rw [h2] at h; cases h

theorem noBreak_of {v : Str} (h1 : v.any (fun c => unescapedBreaks.contains c) = false)
    (h2 : v.any (fun c => escapedCtrl.contains c) = false) : v.any isLineBreak = false := by
  rw [List.any_eq_false] at *
  intro c hc
  rw [not_lineBreak (Bool.eq_false_iff.mpr (h2 c hc)) (Bool.eq_false_iff.mpr (h1 c hc))]
  exact Bool.false_ne_true

/-- `sp.all (· == ' ')` is `readBack`'s own test that only blanks follow -/
theorem mem_all_space {sp : Str} (h : sp.all (· == ' ') = true) {c : Char} (hc : c ∈ sp) : c = ' ' := by
  simpa using List.all_eq_true.mp h c hc

theorem all_space_noBreak (sp : Str) (h : sp.all (· == ' ') = true) : sp.any isLineBreak = false := by
  rw [List.any_eq_false]
  intro c hc
  rw [mem_all_space h hc]
  decide

/-- pushing a whole block in front of a scan result -/
def pushAll (l : Str) (r : Option (Str × Str)) : Option (Str × Str) := l.foldr push r

theorem pushAll_append (a b : Str) (r) : pushAll (a ++ b) r = pushAll a (pushAll b r) := by
  simp [pushAll, List.foldr_append]

/-- a literal body as the tokenizer passes over it when the closing quote `e` and then `u` follow: escape pairs,
and single characters at none of which `e` begins -/
inductive Toks (e u : Str) : Str → Prop
  | nil : Toks e u []
  | esc {c : Char} {b : Str} : Toks e u b → Toks e u (bs :: c :: b)
  | plain {c : Char} {b : Str} : c ≠ bs → e.isPrefixOf (c :: (b ++ (e ++ u))) = false → Toks e u b → Toks e u (c :: b)

theorem scan_toks {q : Char} (hqb : q ≠ bs) {triple : Bool} {rest b : Str}
    (h : Toks (quote q triple) rest b) (hn : triple = false → '\n' ∉ b) :
    (if triple then scan3 q false (b ++ (quote q triple ++ rest)) else scan1 q false (b ++ (quote q triple ++ rest)))
      = some (b, rest) := by
  cases triple with
  | false =>
    replace hn := hn rfl
    simp only [Bool.false_eq_true, if_false]
    induction h with
    | nil => simp [quote, scan1, hqb]
    | @esc c _ _ ih =>
      simp only [List.mem_cons, not_or] at hn
      simp [scan1, Ne.symm hn.2.1, ih hn.2.2, push]
    | @plain c b hc hp _ ih =>
      simp only [List.mem_cons, not_or] at hn
      have hcq : c ≠ q := fun e => by simp [quote, List.isPrefixOf, e] at hp
      simp [scan1, hc, hcq, Ne.symm hn.1, ih hn.2, push]
  | true =>
    simp only [if_true]
    induction h with
    | nil => simp [quote, scan3, hqb]
    | esc _ ih => simp [scan3, ih, push]
    | @plain c b hc hp _ ih =>
      have : (c == q && ((b ++ (quote q true ++ rest)).take 2 == [q, q])) = false := by
        rw [take2_beq, ← hp]; simp [quote, List.isPrefixOf, BEq.comm (a := q)]
      simp [scan3, hc, this, ih, push]

/-- … together with the value `ast.literal_eval` gives it, when it is the body of a non-raw literal without a
line break -/
inductive Lit (e u : Str) : Str → Str → Prop
  | nil : Lit e u [] []
  | esc {c d : Char} {b v : Str} : simpleEscape c = some d → Lit e u b v → Lit e u (bs :: c :: b) (d :: v)
  | plain {c : Char} {b v : Str} : c ≠ bs → isLineBreak c = false → e.isPrefixOf (c :: (b ++ (e ++ u))) = false →
      Lit e u b v → Lit e u (c :: b) (c :: v)

theorem Lit.toks {e u b v : Str} (h : Lit e u b v) : Toks e u b := by
  induction h with
  | nil => exact .nil
  | esc _ _ ih => exact .esc ih
  | plain hc _ hp _ ih => exact .plain hc hp ih

theorem Lit.unescape {e u b v : Str} (h : Lit e u b v) : unescape false b = some v := by
  induction h with
  | nil => rfl
  | esc hd _ ih => simp [PathQuote.unescape, hd, ih]
  | plain hc _ _ _ ih => simp [PathQuote.unescape, hc, ih]

theorem Lit.noBreak {e u b v : Str} (h : Lit e u b v) : b.any isLineBreak = false := by
  induction h with
  | nil => rfl
  | esc hd _ ih => simp [simpleEscape_noBreak hd, ih, show isLineBreak bs = false by decide]
  | plain _ hl _ _ ih => simp [hl, ih]

theorem Lit.escQ {e u b v : Str} (h : Lit e u b v) {e' : Str} (he : ∀ c ∈ e', c = sq ∨ c = dq) :
    Lit e u (escQ e' ++ b) (e' ++ v) := by
  induction e' with
  | nil => exact h
  | cons c e' ih =>
    exact .esc (quoteChar (he c (List.mem_cons_self ..))).escape (ih fun x hx => he x (List.mem_cons_of_mem _ hx))

theorem isPrefixOf_of_head_ne {q : Char} {s : Str} (h : s.head? ≠ some q) (l : Str) : (q :: l).isPrefixOf s = false := by
  cases s with
  | nil => rfl
  | cons c s =>
    have : q ≠ c := fun e => h (e ▸ rfl)
    simp [List.isPrefixOf, this]

/-- the triple-quote look-ahead, for the body itself (`F = id`) and for its encoding: where the closing quote
does not begin in a text that does not end in the quote character, it does not begin either once the text has
been rewritten by `F` and the closing quote follows.  `F` must leave a lone quote character in place and begin
no other token with one. -/
theorem closing_not_at {q : Char} {triple : Bool} (F : Str → Str)
    (hF : triple = true → (∀ d r u, d ≠ q → (F (d :: r) ++ u).head? ≠ some q) ∧
      ∀ d r, d ≠ q → F (q :: d :: r) = q :: F (d :: r)) {c : Char} {t : Str} (u : Str)
    (h : (quote q triple).isPrefixOf (c :: t) = false) (hl : triple = true → (c :: t).getLast? ≠ some q) :
    (quote q triple).isPrefixOf (c :: (F t ++ (quote q triple ++ u))) = false := by
  cases triple with
  | false => simpa [quote, List.isPrefixOf] using h
  | true =>
    have hl := hl rfl
    obtain ⟨hF1, hF2⟩ := hF rfl
    -- after a quote character that is not the last, at most one more follows before another character, and `F`
    -- keeps that prefix
    by_cases hc : q = c
    · subst hc
      match t with
      | [] => simp at hl
      | d :: t =>
        by_cases hd : d = q
        · subst hd
          match t with
          | [] => simp at hl
          | f :: t =>
            have hf : f ≠ d := fun e => by simp [quote, List.isPrefixOf, e] at h
            simpa [quote, List.isPrefixOf, hF2 f t hf] using isPrefixOf_of_head_ne (hF1 f t _ hf) []
        · simpa [quote, List.isPrefixOf] using isPrefixOf_of_head_ne (hF1 d t _ hd) [q]
    · simp [quote, List.isPrefixOf, hc]

/-- a RAW body: a backslash and the character it protects go together -/
theorem toks_raw {q : Char} (triple : Bool) (rest : Str) : ∀ (v : Str), isInfix (quote q triple) v = false →
    v.getLast? ≠ some bs → (triple = true → v.getLast? ≠ some q) →
    Toks (quote q triple) rest v
  | [], _, _, _ => .nil
  | c :: t, hi, hb, hl => by
    simp only [isInfix, Bool.or_eq_false_iff] at hi
    by_cases hc : c = bs
    · subst hc
      match t, hi, hb, hl with
      | [], _, hb, _ => exact absurd rfl hb
      | d :: t, hi, hb, hl =>
        simp only [isInfix, Bool.or_eq_false_iff] at hi
        exact .esc (toks_raw triple rest t hi.2.2 (getLast?_drop_ne 2 hb) fun h => getLast?_drop_ne 2 (hl h))
    · exact .plain hc (closing_not_at id (fun _ => ⟨fun d r u hd => by simpa using hd, fun _ _ _ => rfl⟩) rest hi.1 hl)
        (toks_raw triple rest t hi.2 (getLast?_drop_ne 1 hb) fun h => getLast?_drop_ne 1 (hl h))

theorem lit_enc {T : Tables} (ok : TablesOk T) {q : Char} (hq : q = sq ∨ q = dq) (triple : Bool) (rest x : Str)
    (hx : x.any (fun c => unescapedBreaks.contains c) = false) (hl : triple = true → x.getLast? ≠ some q) :
    Lit (quote q triple) rest (enc T.ctrl (quote q triple) x) x := by
  fun_induction enc T.ctrl (quote q triple) x with
  | case1 => exact .nil
  | case2 c r h ih =>
    rw [← append_drop_of_prefix h (quote_ne_nil q triple)]
    refine (ih ?_ fun h => getLast?_drop_ne _ (getLast?_drop_ne 1 (hl h))).escQ fun c hc => mem_quote hc ▸ hq
    rw [List.any_eq_false] at hx ⊢
    exact fun a ha => hx a (List.mem_cons_of_mem _ (List.mem_of_mem_drop ha))
  | case3 c r h ih =>
    simp only [List.any_cons, Bool.or_eq_false_iff] at hx
    have ih := ih hx.2 fun h => getLast?_drop_ne 1 (hl h)
    have hp := closing_not_at (enc T.ctrl (quote q triple))
      (fun ht => by subst ht; exact ⟨fun d r u => enc_triple_head ok (quoteChar hq).ne_bs r u, fun d r => enc_triple_lone ok hq r⟩) rest
      (Bool.eq_false_iff.mpr h) hl
    rcases ok.encC_cases c with ⟨e, he, hs⟩ | ⟨he, hc, hk⟩ <;> rw [he]
    · exact .esc hs ih
    · exact .plain hc (not_lineBreak hk hx.1) hp ih

theorem parseOpening_quote {q : Char} (hq : q = sq ∨ q = dq) (raw : Bool) {triple : Bool} {t : Str}
    (ht : triple = false → [q, q].isPrefixOf t = false) :
    parseOpening (opening raw q triple ++ t) = some (raw, q, triple, t) := by
  have h1 : (q == sq || q == dq) = true ∧ (q == 'r' || q == 'R') = false := by rcases hq with rfl | rfl <;> decide
  cases raw <;> cases triple <;> simp [opening, parseOpening, quote, h1, take2_beq, ht]

theorem readBack_lit {T : Tables} (E : Env) {q : Char} (hq : q = sq ∨ q = dq) (raw : Bool) {triple : Bool} {body sp : Str}
    (hsp : sp.all (· == ' ') = true) (hnb : body.any isLineBreak = false) (ht : Toks (quote q triple) sp body) :
    readBack T E (opening raw q triple ++ (body ++ (quote q triple ++ sp))) =
      if raw then .args [body] else match unescape false body with
        | none => .unmodelled
        | some v => .args [expandPath T E v] := by
  have hqc := quoteChar hq
  have hql := simpleEscape_noBreak hqc.escape
  have hnb' : (opening raw q triple ++ (body ++ (quote q triple ++ sp))).any isLineBreak = false := by
    have hqq : (quote q triple).any isLineBreak = false := by cases triple <;> simp [quote, hql]
    have hr : (opening raw q triple).any isLineBreak = false := by
      cases raw <;> simp [opening, hqq, show isLineBreak 'r' = false by decide]
    simp [List.any_append, hr, hqq, hnb, all_space_noBreak sp hsp]
  -- a one-character opening quote is not taken for a triple one: the body does not begin with the quote,
  -- and after an empty body come the closing quote and blanks
  have hhd : triple = false → [q, q].isPrefixOf (body ++ (quote q triple ++ sp)) = false := by
    rintro rfl
    cases ht with
    | nil =>
      have : sp.head? ≠ some q := fun h => hqc.ne_space (mem_all_space hsp (List.mem_of_mem_head? h))
      simpa [quote, List.isPrefixOf] using isPrefixOf_of_head_ne this []
    | esc _ => simp [List.isPrefixOf, hqc.ne_bs]
    | @plain c _ _ hp _ =>
      have hc : q ≠ c := fun e => by simp [quote, List.isPrefixOf, e] at hp
      simp [List.isPrefixOf, hc]
  have hscan := scan_toks hqc.ne_bs ht fun _ h => absurd (List.any_eq_false.mp hnb _ h) (by decide)
  rw [readBack, if_neg (by simp [hnb']), parseOpening_quote hq raw hhd]
  simp only [hscan, hsp, Bool.not_true, Bool.false_eq_true, if_false]
  rfl

theorem readBack_enc {T : Tables} (ok : TablesOk T) (E : Env) {q : Char} (hq : q = sq ∨ q = dq) {triple : Bool} {v sp : Str}
    (hsp : sp.all (· == ' ') = true) (hv : v.any (fun c => unescapedBreaks.contains c) = false)
    (hl : triple = true → v.getLast? ≠ some q) :
    readBack T E (opening false q triple ++ (enc T.ctrl (quote q triple) v ++ (quote q triple ++ sp))) =
      .args [expandPath T E v] := by
  have h := lit_enc ok hq triple sp v hv hl
  simp only [readBack_lit E hq false hsp h.noBreak h.toks, h.unescape, Bool.false_eq_true, if_false]

theorem readBack_raw {T : Tables} (E : Env) {q : Char} (hq : q = sq ∨ q = dq) {triple : Bool} {v sp : Str}
    (hsp : sp.all (· == ' ') = true) (hnb : v.any isLineBreak = false) (hinf : isInfix (quote q triple) v = false)
    (hb : v.getLast? ≠ some bs) (hl : triple = true → v.getLast? ≠ some q) :
    readBack T E (opening true q triple ++ (v ++ (quote q triple ++ sp))) = .args [v] :=
  readBack_lit E hq true hsp hnb (toks_raw triple sp v hinf hb hl)

theorem splitAtChar_append {a : Char} {w : Str} (h : a ∉ w) (r : Str) (hr : ∀ c ∈ r.head?, c = a) :
    splitAtChar a (w ++ r) = (w, r) := by
  induction w with
  | nil =>
    cases r with
    | nil => rfl
    | cons c r => simp_all [splitAtChar]
  | cons c t ih =>
    simp [splitAtChar, beq_false_of_not_mem_cons h, ih fun e => h (List.mem_cons_of_mem _ e)]

theorem bangSplit_append {s t : Str} (hs : bangSplit s = none) (ht : bangSplit t = none) :
    bangSplit (s ++ t) = none := by
  fun_induction bangSplit s with
  | case1 => exact ht
  | case2 c hc d r hd ih => simp_all [bangSplit]
  | case3 => simp at hs
  | case4 => simp at hs
  | case5 c r hc ih => rw [List.cons_append, bangSplit.eq_def]; simp_all

theorem pyStmt_snoc {s : Str} (hs : s ≠ []) {a : Char} (ha : a ≠ '=') : pyStmt (s ++ [a]) = pyStmt s := by
  match s, hs with
  | [c], _ => by_cases hc : c = '=' <;> simp [pyStmt, hc, ha, bne]
  | c :: d :: r, _ => rfl

theorem parseOpening_none {t : Str} (h : ∀ c ∈ t, c ≠ sq ∧ c ≠ dq) : parseOpening t = none := by
  match t with
  | [] => rfl
  | [c] => simp [parseOpening, h c]
  | c :: d :: r => simp [parseOpening, h c, h d]

theorem readBack_bare {T : Tables} (E : Env) (w sp : Str) (hsp : sp.all (· == ' ') = true) (hw : w ≠ [])
    (hsafe : w.any (fun c => bareUnsafe.contains c) = false) (hnb : w.any isLineBreak = false)
    (hbang : bangSplit w = none) (hodd : w.any (oddChar T) = false)
    (hkw : readerKeywords.contains w = false) (hpy : pyStmt w = false) :
    readBack T E (w ++ sp) = .args [expandPath T E w] := by
  have hmem : ∀ c, bareUnsafe.contains c = true → c ∉ w := fun c hc hm => List.any_eq_false.mp hsafe c hm hc
  have hnb' : (w ++ sp).any isLineBreak = false := by rw [List.any_append, hnb, all_space_noBreak sp hsp]; rfl
  have hpo : parseOpening (w ++ sp) = none := by
    apply parseOpening_none
    intro c hc
    rcases List.mem_append.mp hc with hc | hc
    · exact ⟨fun e => hmem sq (by decide) (e ▸ hc), fun e => hmem dq (by decide) (e ▸ hc)⟩
    · rw [mem_all_space hsp hc]
      decide
  have hsplit : splitAtChar ' ' (w ++ sp) = (w, sp) :=
    splitAtChar_append (hmem ' ' (by decide)) sp fun _ hc => mem_all_space hsp (List.mem_of_mem_head? hc)
  simp only [readBack, hnb', hpo, hsplit, List.isEmpty_eq_false_iff.mpr hw, Bool.false_eq_true, if_false, readBare, hbang, hsp, hsafe, hodd, hkw,
    hpy, Bool.not_true]

theorem readBack_plain {T : Tables} (ok : TablesOk T) (E : Env) (name : Str) (hname : name ≠ [])
    (hn : needsQuotes T name = false) (hB : name.any (fun c => unescapedBreaks.contains c) = false)
    (hbang : bangSplit name = none) (hodd : name.any (oddChar T) = false) (hpy : pyStmt name = false) (d : Bool)
    (sp : Str) (hsp : sp.all (· == ' ') = true) :
    readBack T E (name ++ dirTail d ++ sp) = .args [expandPath T E (name ++ dirTail d)] := by
  have hslash := ok.slashPlain
  simp only [Bool.or_eq_false_iff] at hslash
  have hkw : readerKeywords.contains (name ++ dirTail d) = false := Bool.eq_false_iff.mpr fun hk => by
    have hm := List.contains_iff_mem.mp hk
    cases d with
    | false =>
      have := List.all_eq_true.mp ok.kwQuoted _ hm
      simp [dirTail, hn] at this
    | true =>
      have := List.all_eq_true.mp (by decide : readerKeywords.all (fun k => !k.contains '/') = true) _ hm
      simp [dirTail] at this
  have hpy' : pyStmt (name ++ dirTail d) = false := by
    cases d with
    | false => simpa [dirTail] using hpy
    | true => rw [dirTail, if_pos rfl, pyStmt_snoc hname (by decide), hpy]
  exact readBack_bare E (name ++ dirTail d) sp hsp (by simp [hname])
    (any_append_dirTail (by decide) (plain_chars ok hn) d)
    (any_append_dirTail (by decide) (noBreak_of hB (plain_noCtrl ok hn)) d)
    (bangSplit_append hbang (by cases d <;> decide)) (any_append_dirTail hslash.1 hodd d) hkw hpy'

end PathQuote
