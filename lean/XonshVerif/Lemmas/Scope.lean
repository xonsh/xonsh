/-
C02: the context stack seen by levels; `addTop`, `ctxremove` and a generic visit on it.
-/
import XonshVerif.Model.Scope
namespace Scope

/-- the context stack innermost first, down to contexts[1] -/
def Ctxs.levels (c : Ctxs) : List (List Name) := c.inner ++ [c.glob]

def addHead (xs : List Name) : List (List Name) → List (List Name)
  | [] => []
  | l :: ls => (xs ++ l) :: ls

theorem levels_eq (c : Ctxs) : c.levels = c.top :: c.levels.tail := by
  obtain ⟨b, g, i⟩ := c
  cases i <;> rfl

theorem vis_iff (c : Ctxs) (x : Name) : c.vis x = true ↔ (∃ l ∈ c.levels, x ∈ l) ∨ x ∈ c.base := by
  simp [Ctxs.vis, Ctxs.levels, or_and_right, exists_or]

theorem addTop_nil (c : Ctxs) : c.addTop [] = c := by
  obtain ⟨b, g, i⟩ := c
  cases i <;> rfl

theorem addTop_addTop (c : Ctxs) (xs ys : List Name) : (c.addTop xs).addTop ys = c.addTop (ys ++ xs) := by
  obtain ⟨b, g, i⟩ := c
  cases i <;> simp [Ctxs.addTop]

theorem levels_addTop (c : Ctxs) (xs : List Name) : (c.addTop xs).levels = addHead xs c.levels := by
  obtain ⟨b, g, i⟩ := c
  cases i <;> rfl

theorem top_addTop (c : Ctxs) (xs : List Name) : (c.addTop xs).top = xs ++ c.top := by
  obtain ⟨b, g, i⟩ := c
  cases i <;> rfl

theorem base_addTop (c : Ctxs) (xs : List Name) : (c.addTop xs).base = c.base := by
  obtain ⟨b, g, i⟩ := c
  cases i <;> rfl

theorem vis_addTop (c : Ctxs) (xs : List Name) (x : Name) :
    (c.addTop xs).vis x = true ↔ x ∈ xs ∨ c.vis x = true := by
  rw [vis_iff, vis_iff, levels_addTop, base_addTop, levels_eq c]
  simp [addHead, or_assoc]

theorem vis_push (c : Ctxs) (x : Name) : c.push.vis x = c.vis x := rfl

theorem vis_addTop_of_vis {c : Ctxs} {x : Name} (xs : List Name) (h : c.vis x = true) : (c.addTop xs).vis x = true :=
  (vis_addTop c xs x).mpr (Or.inr h)

theorem preW_eq (env : Env) (c : Ctxs) (ws : List Name) : preW env c ws = c.addTop (if env.fx.walrus then ws else []) := by
  unfold preW
  split
  · rfl
  · exact (addTop_nil c).symm

theorem mem_filter_ne {l : List Name} {x y : Name} : y ∈ l.filter (· != x) ↔ y ∈ l ∧ y ≠ x := by
  simp [List.mem_filter]

theorem removeInner_top (t : List Name) (r : List (List Name)) (x : Name) (h : x ∈ t) :
    removeInner (t :: r) x = some (t.filter (· != x) :: r) :=
  if_pos (List.contains_iff_mem.mpr h)

theorem remove_some (env : Env) (b g : List Name) {i i' : List (List Name)} {x : Name} (h : removeInner i x = some i') :
    Ctxs.remove env ⟨b, g, i⟩ x = ⟨b, g, i'⟩ := by
  simp only [Ctxs.remove, h]

theorem remove_none (env : Env) (b g : List Name) {i : List (List Name)} (x : Name) (h : removeInner i x = none) :
    ∃ b', Ctxs.remove env ⟨b, g, i⟩ x = ⟨b', g.filter (· != x), i⟩ ∧
      (b' = b ∨ b' = b.filter (· != x) ∧ (x ∈ env.B → env.fx.delB = false ∧ x ∉ g)) := by
  simp only [Ctxs.remove, h]
  cases hg : g.contains x
  · have hxg : x ∉ g := by simpa using hg
    rw [List.filter_bne_eq_self_of_not_mem hxg]
    cases hb : b.contains x
    · exact ⟨_, rfl, Or.inl rfl⟩
    · cases hc : (env.fx.delB && env.B.contains x)
      · refine ⟨_, rfl, Or.inr ⟨rfl, fun hB => ⟨?_, hxg⟩⟩⟩
        simpa [hB] using hc
      · exact ⟨_, rfl, Or.inl rfl⟩
  · cases hc : (env.fx.delSess && i.isEmpty && !env.B.contains x)
    · exact ⟨_, rfl, Or.inl rfl⟩
    · exact ⟨_, rfl, Or.inr ⟨rfl, fun hB => by simp [hB] at hc⟩⟩

theorem top_remove (env : Env) {c : Ctxs} {x : Name} (hx : x ∈ c.top) : (c.remove env x).top = c.top.filter (· != x) := by
  obtain ⟨b, g, i⟩ := c
  cases i with
  | nil =>
    obtain ⟨_, e, _⟩ := remove_none env b g (i := []) x rfl
    rw [e]
    rfl
  | cons t r =>
    rw [remove_some env b g (removeInner_top t r x hx)]
    rfl

mutual
theorem xE_ctx (env : Env) : ∀ (e : Expr) (loc : List Name) (c : Ctxs),
    (xE env loc c e).2 = c.addTop (vW env.fx.lam env.fx.comp loc e)
  | .name _ | .const _ | .boolop _ | .unary _ => fun _ c => (addTop_nil c).symm
  | .node _ cs => xEs_ctx env cs
  | .lam _ b => fun _ => xE_ctx env b _
  | .comp elt _ _ _ => fun _ => xE_ctx env elt _
  | .walrus x v => fun loc c => by
    show (xE env loc (if loc.contains x then c else c.addTop [x]) v).2 =
      c.addTop (vW _ _ loc v ++ if loc.contains x then [] else [x])
    rw [xE_ctx env v loc]
    split
    · rw [List.append_nil]
    · rw [addTop_addTop]
theorem xEs_ctx (env : Env) : ∀ (es : Exprs) (loc : List Name) (c : Ctxs),
    (xEs env loc c es).2 = c.addTop (vWL env.fx.lam env.fx.comp loc es)
  | .nil => fun _ c => (addTop_nil c).symm
  | .cons e es => fun loc c => by
    show (xEs env loc (xE env loc c e).2 es).2 = _
    rw [xEs_ctx env es loc, xE_ctx env e loc c, addTop_addTop]; rfl
end

mutual
theorem vW_sub_wAny (l k : Bool) : ∀ (e : Expr) (loc : List Name) (x : Name), x ∈ vW l k loc e → x ∈ wAny e
  | .name _ | .const _ | .boolop _ | .unary _ => fun _ _ h => nomatch h
  | .node _ cs => vWL_sub_wAnyL l k cs
  | .lam _ b => fun _ => vW_sub_wAny l k b _
  | .comp elt _ _ _ => fun _ x h => List.mem_append_left _ (vW_sub_wAny l k elt _ x h)
  | .walrus y v => fun loc x h => by
    rcases List.mem_append.mp h with h | h
    · exact List.mem_cons_of_mem y (vW_sub_wAny l k v loc x h)
    · split at h
      · nomatch h
      · exact List.mem_singleton.mp h ▸ List.mem_cons_self
theorem vWL_sub_wAnyL (l k : Bool) : ∀ (es : Exprs) (loc : List Name) (x : Name), x ∈ vWL l k loc es → x ∈ wAnyL es
  | .nil => fun _ _ h => nomatch h
  | .cons e es => fun loc x h =>
    (List.mem_append.mp h).elim (fun h => List.mem_append_right _ (vWL_sub_wAnyL l k es loc x h))
      (fun h => List.mem_append_left _ (vW_sub_wAny l k e loc x h))
end

theorem subset_iff {xs ys : List Name} : subset xs ys = true ↔ ∀ x ∈ xs, x ∈ ys := by
  simp [subset, List.all_eq_true]

theorem subset_refl (xs : List Name) : subset xs xs = true := subset_iff.mpr fun _ h => h

end Scope
