/-
C02, expressions: when the contexts cover an expression's free reads, the operand tests (`xD`), a generic visit (`xE`) and
`visit_Expr` all decide `keep`; and what `visit_Expr` decides otherwise.
-/
import XonshVerif.Lemmas.Scope
namespace Scope

theorem or_and_true {p : Prop} {a b : Bool} (h : p ∨ (a && b) = true) : (p ∨ a = true) ∧ (p ∨ b = true) := by
  rwa [Bool.and_eq_true, or_and_left] at h

mutual
theorem free_loads (lamToo : Bool) : ∀ (e : Expr) (bound : List Name), freeOk bound e = true →
    (lamToo = true ∨ lamOk e = true) → ∀ x ∈ loads e, x ∈ bound ∨ x ∈ stores lamToo e
  | .name _ => fun _ h _ _ hx => Or.inl (List.mem_singleton.mp hx ▸ List.contains_iff_mem.mp h)
  | .const _ => fun _ _ _ _ hx => nomatch hx
  | .node _ cs => free_loadsL lamToo cs
  | .boolop vs => free_loadsL lamToo vs
  | .unary e => free_loads lamToo e
  | .walrus y v => fun bound h hl x hx => (free_loads lamToo v bound h hl x hx).imp_right (List.mem_cons_of_mem y)
  | .lam ps b => fun bound h hl x hx => by
    have ⟨hp, hb⟩ := or_and_true hl
    show _ ∨ x ∈ (if lamToo then ps else []) ++ stores lamToo b
    rcases free_loads lamToo b (ps ++ bound) h hb x hx with h1 | h1
    · rcases List.mem_append.mp h1 with h2 | h2
      · -- a parameter read in the body: stored if parameters count, else excluded by `lamOk`
        rcases hp with hp | hp
        · simp [hp, h2]
        · exact absurd (show x ∈ loads b from hx) (by simpa using List.all_eq_true.mp hp x h2)
      · exact Or.inl h2
    · exact Or.inr (List.mem_append_right _ h1)
  | .comp elt tgts iter conds => fun bound h hl x hx => by
    have ⟨hi, hce⟩ := Bool.and_eq_true_iff.mp h
    have ⟨hc, he⟩ := Bool.and_eq_true_iff.mp hce
    have ⟨le, lic⟩ := or_and_true hl
    have ⟨li, lc⟩ := or_and_true lic
    show _ ∨ x ∈ tgts ++ (stores lamToo elt ++ (stores lamToo iter ++ storesL lamToo conds))
    rcases List.mem_append.mp hx with hx | hx
    · rcases free_loads lamToo elt (tgts ++ bound) he le x hx with h1 | h1
      · rcases List.mem_append.mp h1 with h2 | h2 <;> simp [h2]
      · simp [h1]
    rcases List.mem_append.mp hx with hx | hx
    · rcases free_loads lamToo iter bound hi li x hx with h1 | h1 <;> simp [h1]
    · rcases free_loadsL lamToo conds (tgts ++ bound) hc lc x hx with h1 | h1
      · rcases List.mem_append.mp h1 with h2 | h2 <;> simp [h2]
      · simp [h1]
theorem free_loadsL (lamToo : Bool) : ∀ (es : Exprs) (bound : List Name), freeOkL bound es = true →
    (lamToo = true ∨ lamOkL es = true) → ∀ x ∈ loadsL es, x ∈ bound ∨ x ∈ storesL lamToo es
  | .nil => fun _ _ _ _ hx => nomatch hx
  | .cons e es => fun bound h hl x hx =>
    have ⟨h1, h2⟩ := Bool.and_eq_true_iff.mp h
    have ⟨l1, l2⟩ := or_and_true hl
    (List.mem_append.mp hx).elim
      (fun hx => (free_loads lamToo e bound h1 l1 x hx).imp_right (List.mem_append_left _))
      (fun hx => (free_loadsL lamToo es bound h2 l2 x hx).imp_right (List.mem_append_right _))
end

theorem inScope_iff {env : Env} {c : Ctxs} {loc : List Name} {e : Expr} : inScope env c loc e = true ↔
    ∀ x ∈ loads e, x ∈ stores env.fx.lam e ∨ c.vis x = true ∨ x ∈ loc := by
  simp only [inScope, List.all_eq_true, Bool.or_eq_true, List.contains_iff_mem, or_assoc]

theorem inScope_of_free {env : Env} {c : Ctxs} {loc bound : List Name} {e : Expr}
    (hf : freeOk bound e = true) (hl : env.fx.lam = true ∨ lamOk e = true)
    (hb : ∀ x ∈ bound, c.vis x = true ∨ x ∈ loc) : inScope env c loc e = true :=
  inScope_iff.mpr fun x hx => (free_loads env.fx.lam e bound hf hl x hx).symm.imp_right (hb x)

mutual
theorem xD_keep (env : Env) (c : Ctxs) (loc bound : List Name)
    (hb : ∀ x ∈ bound, c.vis x = true ∨ x ∈ loc) : ∀ e : Expr, freeOk bound e = true →
    (env.fx.lam = true ∨ lamOk e = true) → ∀ d ∈ xD env c loc e, d.v = Verdict.keep
  | .boolop vs => xOps_keep env c loc bound hb vs
  | .unary e => fun hf hl d hd => by
    rcases List.mem_append.mp hd with hd | hd
    · exact xD_keep env c loc bound hb e hf hl d hd
    · rw [List.mem_singleton.mp hd, inScope_of_free (e := e) hf hl hb]; rfl
  | .name _ | .const _ | .node _ _ | .lam _ _ | .comp _ _ _ _ | .walrus _ _ => fun _ _ _ hd => nomatch hd
theorem xOps_keep (env : Env) (c : Ctxs) (loc bound : List Name)
    (hb : ∀ x ∈ bound, c.vis x = true ∨ x ∈ loc) : ∀ vs : Exprs, freeOkL bound vs = true →
    (env.fx.lam = true ∨ lamOkL vs = true) → ∀ d ∈ xOps env c loc vs, d.v = Verdict.keep
  | .nil => fun _ _ _ hd => nomatch hd
  | .cons v vs => fun hf hl d hd => by
    have ⟨h1, h2⟩ := Bool.and_eq_true_iff.mp hf
    have ⟨l1, l2⟩ := or_and_true hl
    rcases List.mem_append.mp hd with hd | hd
    · exact xD_keep env c loc bound hb v h1 l1 d hd
    rcases List.mem_cons.mp hd with hd | hd
    · rw [hd, inScope_of_free h1 l1 hb]; rfl
    · exact xOps_keep env c loc bound hb vs h2 l2 d hd
end

mutual
theorem xE_decFree (env : Env) : ∀ (e : Expr) (loc : List Name) (c : Ctxs), decFree e = true → (xE env loc c e).1 = []
  | .name _ | .const _ => fun _ _ _ => rfl
  | .boolop _ | .unary _ => fun _ _ h => nomatch h
  | .node _ cs => xEs_decFree env cs
  | .lam _ b => fun _ => xE_decFree env b _
  | .comp elt _ _ _ => fun _ => xE_decFree env elt _
  | .walrus _ v => fun loc _ => xE_decFree env v loc _
theorem xEs_decFree (env : Env) : ∀ (es : Exprs) (loc : List Name) (c : Ctxs), decFreeL es = true → (xEs env loc c es).1 = []
  | .nil => fun _ _ _ => rfl
  | .cons e es => fun loc c h => by
    have ⟨h1, h2⟩ := Bool.and_eq_true_iff.mp h
    show (xE env loc c e).1 ++ (xEs env loc (xE env loc c e).2 es).1 = []
    rw [xE_decFree env e loc c h1, xEs_decFree env es loc _ h2]; rfl
end
/-- the body `b` of a lambda / comprehension with own names `ps`: these count as bound (`flag`), or there are none, or
nothing is tested below -/
theorem keep_under (env : Env) {flag : Bool} {ps loc bound : List Name} {c : Ctxs} {b : Expr}
    (ih : ∀ loc bound, (∀ x ∈ bound, c.vis x = true ∨ x ∈ loc) → freeOk bound b = true →
      ∀ d ∈ (xE env loc c b).1, d.v = Verdict.keep)
    (hb : ∀ x ∈ bound, c.vis x = true ∨ x ∈ loc) (hf : freeOk (ps ++ bound) b = true)
    (hg : (flag || ps.isEmpty || decFree b) = true) :
    ∀ d ∈ (xE env (if flag then ps ++ loc else loc) c b).1, d.v = Verdict.keep := by
  cases flag with
  | true =>
    refine ih (ps ++ loc) (ps ++ bound) (fun x hx => ?_) hf
    rcases List.mem_append.mp hx with h | h
    · exact Or.inr (List.mem_append_left _ h)
    · exact (hb x h).imp_right (List.mem_append_right _)
  | false =>
    rcases Bool.or_eq_true_iff.mp hg with hps | hdf
    · rw [List.isEmpty_iff.mp hps] at hf
      exact ih loc bound hb hf
    · exact xE_decFree env b _ c hdf ▸ List.forall_mem_nil _

mutual
theorem xE_keep (env : Env) : ∀ (e : Expr) (loc bound : List Name) (c : Ctxs),
    (∀ x ∈ bound, c.vis x = true ∨ x ∈ loc) → freeOk bound e = true → gV env.fx e = true →
    ∀ d ∈ (xE env loc c e).1, d.v = Verdict.keep
  | .name _ | .const _ => fun _ _ _ _ _ _ _ hd => nomatch hd
  | .node _ cs => xEs_keep env cs
  | .boolop vs => fun loc bound c hb hf hg => xD_keep env c loc bound hb (.boolop vs) hf (Bool.or_eq_true_iff.mp hg)
  | .unary e => fun loc bound c hb hf hg => xD_keep env c loc bound hb (.unary e) hf (Bool.or_eq_true_iff.mp hg)
  | .lam _ b => fun _ _ c hb hf hg =>
    have ⟨hg1, hg2⟩ := Bool.and_eq_true_iff.mp hg
    keep_under env (fun loc bound hb hf => xE_keep env b loc bound c hb hf hg1) hb hf hg2
  | .comp elt _ _ _ => fun _ _ c hb hf hg =>
    have ⟨hg1, hg2⟩ := Bool.and_eq_true_iff.mp hg
    keep_under env (fun loc bound hb hf => xE_keep env elt loc bound c hb hf hg1) hb
      (Bool.and_eq_true_iff.mp (Bool.and_eq_true_iff.mp hf).2).2 hg2
  | .walrus y v => fun loc bound c hb hf hg =>
    xE_keep env v loc bound _ (fun x hx => (hb x hx).imp_left fun h => by
      split
      · exact h
      · exact vis_addTop_of_vis [y] h) hf hg
theorem xEs_keep (env : Env) : ∀ (es : Exprs) (loc bound : List Name) (c : Ctxs),
    (∀ x ∈ bound, c.vis x = true ∨ x ∈ loc) → freeOkL bound es = true → gVL env.fx es = true →
    ∀ d ∈ (xEs env loc c es).1, d.v = Verdict.keep
  | .nil => fun _ _ _ _ _ _ _ hd => nomatch hd
  | .cons e es => fun loc bound c hb hf hg d hd => by
    have ⟨hf1, hf2⟩ := Bool.and_eq_true_iff.mp hf
    have ⟨hg1, hg2⟩ := Bool.and_eq_true_iff.mp hg
    rcases List.mem_append.mp hd with hd | hd
    · exact xE_keep env e loc bound c hb hf1 hg1 d hd
    · refine xEs_keep env es loc bound _ (fun x hx => ?_) hf2 hg2 d hd
      rw [xE_ctx env e loc c]
      exact (hb x hx).imp_left (vis_addTop_of_vis _)
end

theorem isLam_inv : ∀ {e : Expr}, isLam e = true → ∃ ps b, e = .lam ps b
  | .lam ps b => fun _ => ⟨ps, b, rfl⟩
  | .name _ | .const _ | .node _ _ | .boolop _ | .unary _ | .comp _ _ _ _ | .walrus _ _ => fun h => nomatch h

theorem bareBuiltin_name {env : Env} {c : Ctxs} {x : Name} : bareBuiltin env c (.name x) = true ↔
    x ∈ env.B ∧ x ∉ env.U ∧ x ∉ c.glob ∧ ∀ l ∈ c.inner, x ∉ l := by
  simp [bareBuiltin, and_assoc]

theorem not_bareBuiltin {env : Env} {c : Ctxs} {x : Name} (h : x ∈ env.U ∨ ∃ l ∈ c.levels, x ∈ l) :
    bareBuiltin env c (.name x) = false := by
  refine Bool.eq_false_iff.mpr fun hb => ?_
  obtain ⟨_, hU, hg, hi⟩ := bareBuiltin_name.mp hb
  rcases h with h | ⟨l, hl, hx⟩
  · exact hU h
  · rcases List.mem_append.mp hl with hl | hl
    · exact hi l hl hx
    · exact hg (List.mem_singleton.mp hl ▸ hx)

theorem bareBuiltin_loads {env : Env} {c : Ctxs} : ∀ {e : Expr}, bareBuiltin env c e = true → ∀ x ∈ loads e, x ∈ env.B
  | .name _ => fun h _ hx => List.mem_singleton.mp hx ▸ (bareBuiltin_name.mp h).1
  | .const _ => fun _ _ hx => nomatch hx
  | .node _ _ | .boolop _ | .unary _ | .lam _ _ | .comp _ _ _ _ | .walrus _ _ => fun h => nomatch h

theorem stmtVerdict {b k : Bool} :
    (k = true → (if b then Verdict.builtin else if k then Verdict.keep else Verdict.offer) ≠ Verdict.offer) ∧
    (b = false → (if b then Verdict.builtin else if k then Verdict.keep else Verdict.offer) ≠ Verdict.builtin) ∧
    (b = false → k = false → (if b then Verdict.builtin else if k then Verdict.keep else Verdict.offer) = Verdict.offer) := by
  cases b <;> cases k <;> decide

variable {env : Env} {c : Ctxs} {e : Expr}

/-- first case of `hl`: a lambda is kept as it is, its body untested -/
theorem xExprStmt_keep {bound : List Name} (hb : ∀ x ∈ bound, c.vis x = true) (hf : freeOk bound e = true)
    (hl : isLam e = true ∨ env.fx.lam = true ∨ lamOk e = true) : ∀ d ∈ xExprStmt env c e, d.v ≠ Verdict.offer := by
  have hb' : ∀ x ∈ bound, c.vis x = true ∨ x ∈ [] := fun x hx => Or.inl (hb x hx)
  intro d hd
  rcases List.mem_append.mp hd with hd | hd
  · rcases hl with hl | hl
    · obtain ⟨_, _, rfl⟩ := isLam_inv hl
      nomatch hd
    · exact fun e' => nomatch (xD_keep env c [] bound hb' e hf hl d hd).symm.trans e'
  · rw [List.mem_singleton.mp hd]
    exact stmtVerdict.1 (Bool.or_eq_true_iff.mpr (hl.symm.imp_left (inScope_of_free hf · hb')))

theorem xExprStmt_name {x : Name} (h : bareBuiltin env c (.name x) = false) :
    ∀ d ∈ xExprStmt env c (.name x), d.v ≠ Verdict.builtin := fun d hd => by
  rw [List.mem_singleton.mp hd]
  exact stmtVerdict.2.1 h

theorem xExprStmt_offer {x : Name} (hv : c.vis x = false) (hB : x ∉ env.B) (hl : x ∈ loads e)
    (hs : x ∉ stores env.fx.lam e) (hlam : isLam e = false) : (⟨0, Verdict.offer⟩ : Dec) ∈ xExprStmt env c e := by
  refine List.mem_append_right _ (List.mem_singleton.mpr (congrArg (Dec.mk 0) (stmtVerdict.2.2 ?_ ?_).symm))
  · exact Bool.eq_false_iff.mpr fun h => hB (bareBuiltin_loads h x hl)
  · rw [hlam, Bool.or_false]
    exact Bool.eq_false_iff.mpr fun h => by simpa [hs, hv] using inScope_iff.mp h x hl

end Scope
