import XonshVerif.Model.TrySkel
/-
C03 — the generic lemma: a loop that starts with `if n ≤ 0: raise; n -= 1` and never writes `n` afterwards runs
at most n₀ times, whatever the opaque parts do; the guarded recursion has depth ≤ 2.  Hence a bound on the number
of parser calls for every oracle.  Proved once; the regenerated skeleton only has to satisfy `shapeOk`.
-/
namespace TrySkel

structure Within (o : Out) (parses bound : Nat) : Prop where
  noFuel : o ≠ .fuel
  noDeeper : o ≠ .deeper
  le : parses ≤ bound

theorem Within.mono {o : Out} {n b b' : Nat} (h : Within o n b) (hb : b ≤ b') : Within o n b' :=
  ⟨h.noFuel, h.noDeeper, Nat.le_trans h.le hb⟩

/-- most parser calls on any path through `st` when one recursive call makes at most `Rb` of them -/
def maxParses (pn : String) (Rb : Nat) (st : Stmt) : Nat := maxCalls pn st + maxRec st * Rb

theorem maxParses_seq (pn Rb a b) : maxParses pn Rb (.seq a b) = maxParses pn Rb a + maxParses pn Rb b := by
  simp only [maxParses, maxCalls, maxRec, Nat.add_mul, Nat.add_add_add_comm]

theorem maxParses_tryExc (pn Rb b h) : maxParses pn Rb (.tryExc b h) = maxParses pn Rb b + maxParses pn Rb h :=
  maxParses_seq pn Rb b h

theorem maxParses_ite (pn Rb nl t e) :
    maxParses pn Rb t ≤ maxParses pn Rb (.ite nl t e) ∧ maxParses pn Rb e ≤ maxParses pn Rb (.ite nl t e) :=
  ⟨Nat.add_le_add (Nat.le_max_left ..) (Nat.mul_le_mul_right _ (Nat.le_max_left ..)),
   Nat.add_le_add (Nat.le_max_right ..) (Nat.mul_le_mul_right _ (Nat.le_max_right ..))⟩

@[simp] theorem St.tick_ctr (s : St) : s.tick.ctr = s.ctr := rfl

theorem exec_ctr (E : Env) (st : Stmt) (s : St) (h : noCtrWrite E.ctrName st = true) :
    (exec E st s).2.ctr = s.ctr := by
  fun_induction exec E st s <;> try rfl       -- a leaf that is no write to the counter
  all_goals simp only [noCtrWrite, Bool.and_eq_true] at h
  all_goals simp_all      -- `v = …` / `v -= 1` with `v` the counter: `h` says `v != ctrName`; a composite statement: by induction

theorem exec_ctr_le (E : Env) (B : Nat) (hci : ∀ k, E.ci k ≤ B) (st : Stmt) (s : St) (h : s.ctr ≤ B) :
    (exec E st s).2.ctr ≤ B := by
  fun_induction exec E st s <;> try exact h   -- a leaf that is no write to the counter
  all_goals simp_all      -- `ctr = …` gives it the value `E.ci _`: `hci`; a composite statement: by induction
  all_goals omega         -- `ctr -= 1`

/-- A recursive call is reached only under a test with `not logical_input` that held
(`g`: such a test is above us), so never in the frame entered with `logical_input=True`: only in the other frame
is anything assumed of it. -/
theorem exec_within (E : Env) (Rb : Nat)
    (hrec : E.logical = false → ∀ p k, Within (E.recf p k).1 (E.recf p k).2.1 (p + Rb))
    (g : Bool) (hl : g = true → E.logical = false) (st : Stmt) (s : St) (hg : recGuarded g st = true) :
    Within (exec E st s).1 (exec E st s).2.parses (s.parses + maxParses E.parseName Rb st) := by
  fun_induction exec E st s generalizing g with
  | case2 a b s s' x iha ihb | case21 a b s s' x iha ihb =>      -- `a; b` / `try a except b` where `a` hands over to `b`, in `s'`
    simp only [recGuarded, Bool.and_eq_true] at hg
    have ha : s'.parses ≤ _ := x ▸ (iha g hl hg.1).le
    exact (ihb g hl hg.2).mono (by simp only [maxParses_seq, maxParses_tryExc]; omega)
  | case3 a b s x iha | case22 a b s x iha =>                    -- … where it does not
    simp only [recGuarded, Bool.and_eq_true] at hg
    exact (iha g hl hg.1).mono (by simp only [maxParses_seq, maxParses_tryExc]; omega)
  | case18 nl t e s _ ih | case20 nl t e s _ _ ih =>      -- `if`: the else branch
    simp only [recGuarded, Bool.and_eq_true] at hg
    exact (ih g hl hg.2).mono (Nat.add_le_add_left (maxParses_ite ..).2 _)
  | case19 nl t e s hnl _ ih =>          -- `if`: the then branch; its test held, so `nl` means `not logical_input`
    simp only [recGuarded, Bool.and_eq_true] at hg
    refine (ih (g || nl) (fun h => ?_) hg.1).mono (Nat.add_le_add_left (maxParses_ite ..).1 _)
    cases g with
    | true => exact hl rfl
    | false => cases nl <;> simp_all only [Bool.or_self, Bool.false_eq_true, Bool.true_and, Bool.not_eq_true]
  | case8 s r x => exact absurd x (hrec (hl hg) ..).noFuel      -- the recursive call, by what it returns
  | case9 s r x => exact absurd x (hrec (hl hg) ..).noDeeper
  | case10 s r | case11 s r =>
    exact ⟨nofun, nofun, by simpa [maxParses, maxCalls, maxRec] using (hrec (hl hg) s.parses s.orc).le⟩
  | case6 f s s' _ | case7 f s s' _ =>   -- `call f` adds `if f == parseName then 1 else 0`: that is `maxCalls parseName (.call f)`
    exact ⟨nofun, nofun, Nat.add_le_add_left (Nat.le_add_right (maxCalls E.parseName (.call f)) _) _⟩
  | _ => exact ⟨nofun, nofun, Nat.le_add_right ..⟩       -- every other leaf leaves `parses` as it is

theorem noRec_spec (st : Stmt) (h : noRec st = true) : maxRec st = 0 ∧ ∀ g, recGuarded g st = true := by
  induction st with
  | seq a b iha ihb | tryExc a b iha ihb | ite _ a b iha ihb =>
    simp only [noRec, Bool.and_eq_true] at h
    simp [maxRec, recGuarded, iha h.1, ihb h.2]
  | recCall => cases h
  | _ => simp [maxRec, recGuarded]

theorem maxParses_of_noRec (pn : String) (Rb : Nat) (st : Stmt) (h : noRec st = true) :
    maxParses pn Rb st = maxCalls pn st := by
  rw [maxParses, (noRec_spec st h).1, Nat.zero_mul, Nat.add_zero]

theorem body_round (E : Env) (rest : Stmt) (s : St) :
    exec E (.seq (.guardCtr E.ctrName) (.seq (.decCtr E.ctrName) rest)) s
      = if s.ctr = 0 then (.raise, s) else exec E rest { s with ctr := s.ctr - 1 } := by
  by_cases h0 : s.ctr = 0 <;> simp [exec, h0]

theorem loop_within (E : Env) (rest : Stmt) (K : Nat) (hw : noCtrWrite E.ctrName rest = true)
    (hrest : ∀ s, Within (exec E rest s).1 (exec E rest s).2.parses (s.parses + K)) :
    ∀ (fuel : Nat) (s : St), s.ctr < fuel →
      Within (loop E (.seq (.guardCtr E.ctrName) (.seq (.decCtr E.ctrName) rest)) fuel s).1
        (loop E (.seq (.guardCtr E.ctrName) (.seq (.decCtr E.ctrName) rest)) fuel s).2.parses
        (s.parses + s.ctr * K) := by
  intro fuel
  induction fuel with
  | zero => intro s h; omega
  | succ n ih =>
    intro s h
    rw [loop]
    split
    · rw [body_round, St.tick_ctr]
      by_cases h0 : s.ctr = 0
      · rw [if_pos h0]; exact ⟨nofun, nofun, Nat.le_add_right ..⟩
      · rw [if_neg h0]
        have hc := exec_ctr E rest { s.tick with ctr := s.ctr - 1 } hw
        have hr := hrest { s.tick with ctr := s.ctr - 1 }
        generalize exec E rest _ = r at hc hr ⊢
        obtain ⟨o, s'⟩ := r
        have hc : s.ctr = s'.ctr + 1 := by dsimp only at hc; omega
        have hp : s'.parses ≤ s.parses + K := hr.le
        have hK : s.ctr * K = s'.ctr * K + K := by rw [hc, Nat.succ_mul]
        cases o
        case normal | cont => exact (ih s' (by omega)).mono (by omega)
        all_goals exact hr.mono (by dsimp only [St.tick]; omega)
    · exact ⟨nofun, nofun, Nat.le_add_right ..⟩

theorem runFn_within (E : Env) (f : Fn) (hcn : E.ctrName = f.ctr) (B Rb fuel : Nat) (hci : ∀ k, E.ci k ≤ B) (hB : B < fuel)
    (hrec : E.logical = false → ∀ p k, Within (E.recf p k).1 (E.recf p k).2.1 (p + Rb))
    (hs : shapeOk f E.parseName = true) (p k : Nat) :
    Within (runFn E f fuel p k).1 (runFn E f fuel p k).2.1 (p + B * maxParses E.parseName Rb (bodyRest f)) := by
  simp only [shapeOk, Bool.and_eq_true, beq_iff_eq] at hs
  obtain ⟨⟨⟨⟨⟨⟨hbody, hw⟩, hg⟩, hpre⟩, hpost⟩, hcpre⟩, hcpost⟩ := hs
  have within := exec_within E Rb hrec false nofun
  have a := within f.pre ⟨0, p, k⟩ ((noRec_spec _ hpre).2 _)
  have actr := exec_ctr_le E B hci f.pre ⟨0, p, k⟩ (Nat.zero_le _)
  rw [maxParses_of_noRec _ _ _ hpre, hcpre] at a
  rw [runFn, hbody, ← hcn]
  generalize exec E f.pre ⟨0, p, k⟩ = r1 at a actr ⊢
  obtain ⟨o1, s1⟩ := r1
  cases o1 <;> try exact a.mono (Nat.le_add_right ..)
  -- left: o1 = normal
  have b := (loop_within E (bodyRest f) _ (hcn ▸ hw) (fun s => within _ s hg) fuel s1 (Nat.lt_of_le_of_lt actr hB)).mono
    (Nat.add_le_add a.le (Nat.mul_le_mul_right _ actr))
  dsimp only
  generalize loop E _ fuel s1 = r2 at b ⊢
  obtain ⟨o2, s2⟩ := r2
  cases o2 <;> try exact b
  -- left: o2 = normal
  have c := (within f.post s2 ((noRec_spec _ hpost).2 _)).mono (Nat.add_le_add_right b.le _)
  rw [maxParses_of_noRec _ _ _ hpost, hcpost] at c
  dsimp only
  generalize exec E f.post s2 = r3 at c ⊢
  obtain ⟨o3, s3⟩ := r3
  cases o3 <;> first | exact c | exact ⟨nofun, nofun, c.le⟩

theorem ctxFree_within (E : Env) (f : Fn) (hcn : E.ctrName = f.ctr) (B Rb fuel : Nat) (hci : ∀ k, E.ci k ≤ B) (hB : B < fuel)
    (hrec : E.logical = false → ∀ p k, Within (E.recf p k).1 (E.recf p k).2.1 (p + Rb))
    (hs : shapeOk f E.parseName = true) (p k : Nat) :
    Within (ctxFree E f fuel p k).1 (ctxFree E f fuel p k).2.1
      (p + 2 * (B * maxParses E.parseName Rb (bodyRest f))) := by
  have r1 := runFn_within E f hcn B Rb fuel hci hB hrec hs p k
  rw [ctxFree]
  generalize runFn E f fuel p k = r at r1
  obtain ⟨o, p1, k1⟩ := r
  have r2 := (runFn_within E f hcn B Rb fuel hci hB hrec hs p1 (k1 + 1)).mono
    (Nat.add_le_add_right r1.le _)
  cases o <;> try exact r1.mono (by omega)
  -- left: o = raise
  dsimp only
  split
  · exact r2.mono (by omega)
  · exact ⟨nofun, nofun, Nat.le_trans r1.le (by omega)⟩

theorem parseOuter_bound (o : Nat → Bool) (ci : Nat → Nat) (f : Fn) (pn : String) (B fuel : Nat)
    (hci : ∀ k, ci k ≤ B) (hB : B < fuel) (hs : shapeOk f pn = true) :
    Within (parseOuter o ci f pn fuel).1 (parseOuter o ci f pn fuel).2.1
      (2 * (B * maxParses pn (2 * (B * maxParses pn 0 (bodyRest f))) (bodyRest f))) := by
  have := ctxFree_within (envOuter o ci f pn fuel) f rfl B _ fuel hci hB
    -- the frame entered with `logical_input=True` assumes nothing of its own recursive call
    (fun _ => ctxFree_within (envInner o ci f pn) f rfl B 0 fuel hci hB nofun hs) hs 0 0
  rwa [Nat.zero_add] at this

theorem loop_diverges (E : Env) (body : Stmt) (I : St → Prop)
    (h : ∀ s, I s → E.o s.orc = true ∧ ∃ s', exec E body s.tick = (.cont, s') ∧ I s') :
    ∀ (fuel : Nat) (s : St), I s → (loop E body fuel s).1 = .fuel := by
  intro fuel
  induction fuel with
  | zero => intro s _; rfl
  | succ n ih =>
    intro s hs
    obtain ⟨ho, s', he, hs'⟩ := h s hs
    rw [loop, if_pos ho, he]
    exact ih s' hs'

theorem runFn_fuel (E : Env) (f : Fn) (fuel p k : Nat) (s1 : St) (hpre : exec E f.pre ⟨0, p, k⟩ = (.normal, s1))
    (hloop : (loop E f.body fuel s1).1 = .fuel) : (runFn E f fuel p k).1 = .fuel := by
  rw [runFn, hpre]
  dsimp only
  generalize loop E f.body fuel s1 = r at hloop
  obtain ⟨o, s2⟩ := r
  cases hloop
  rfl

end TrySkel
