/-
C02 (C02_scope_pop, C02_del_returns): what a statement can ADD to the context stack.
`topAdds s` = names it may record in the context it runs in, `globAdds s` = names of `global` statements anywhere inside it.
Everything else only shrinks (ctxremove) — in particular whatever a def / class body records in its own context is gone
after the pop.
-/
import XonshVerif.Lemmas.ScopeRun
namespace Scope

mutual
  def globAdds : Stmt → List Name
    | .global_ _ xs => xs
    | .fdef _ _ _ _ body _ => globAddsL body
    | .cdef _ _ _ body _ => globAddsL body
    | .for_ _ _ _ body orelse => globAddsL body ++ globAddsL orelse
    | .while_ _ _ body orelse => globAddsL body ++ globAddsL orelse
    | .if_ _ _ body orelse => globAddsL body ++ globAddsL orelse
    | .with_ _ _ _ body => globAddsL body
    | .try_ _ body hs orelse final => globAddsL body ++ (globAddsH hs ++ (globAddsL orelse ++ globAddsL final))
    | _ => []
  def globAddsL : Stmts → List Name
    | .nil => []
    | .cons s ss => globAdds s ++ globAddsL ss
  def globAddsH : Handlers → List Name
    | .nil => []
    | .cons _ _ _ body rest => globAddsL body ++ globAddsH rest
end

/-- what visiting a statement's own expressions may record: walrus targets (reached by generic_visit, or all of them in the repaired variant) -/
def exprAdds (es : Exprs) : List Name := allWL es ++ wAnyL es

mutual
  def topAdds : Stmt → List Name
    | .expr _ e => allW e
    | .assign _ tgts v => exprAdds (one v) ++ (assignAdds tgts ++ tNamesL tgts)
    | .annassign _ t ann v => exprAdds (.cons ann v) ++ (lmName t ++ tBinds t)
    | .augassign _ _ v => exprAdds (one v)
    | .imp _ items => impAdds Fixes.all items
    | .impFrom _ items => impAdds Fixes.all items
    | .fdef _ f _ dfl _ decos => f :: allWL (dfl.append decos)
    | .cdef _ cn bases _ decos => cn :: allWL (bases.append decos)
    | .for_ _ tgt iter body orelse => exprAdds (one iter) ++ (tNames tgt ++ (topAddsL body ++ topAddsL orelse))
    | .while_ _ test body orelse => exprAdds (one test) ++ (topAddsL body ++ topAddsL orelse)
    | .if_ _ test body orelse => exprAdds (one test) ++ (topAddsL body ++ topAddsL orelse)
    | .with_ _ ctxs tgts body => exprAdds ctxs ++ (tNamesL tgts ++ topAddsL body)
    | .try_ _ body hs orelse final => hs.names ++ (topAddsL body ++ (topAddsH hs ++ (topAddsL orelse ++ topAddsL final)))
    | .global_ _ _ => []
    | .del _ _ _ => []
    | .ret _ v => exprAdds v
    | .pass _ => []
  def topAddsL : Stmts → List Name
    | .nil => []
    | .cons s ss => topAdds s ++ topAddsL ss
  def topAddsH : Handlers → List Name
    | .nil => []
    | .cons _ ty nm body rest => exprAdds ty ++ (optName nm ++ (topAddsL body ++ topAddsH rest))
end

/-- levels below the current one: only `global` names may appear -/
def LowL (G : List Name) : List (List Name) → List (List Name) → Prop
  | [], [] => True
  | l' :: ls', l :: ls => (∀ x ∈ l', x ∈ l ∨ x ∈ G) ∧ LowL G ls' ls
  | _, _ => False

def ShapeL (T G : List Name) : List (List Name) → List (List Name) → Prop
  | l' :: ls', l :: ls => (∀ x ∈ l', x ∈ l ∨ x ∈ T ∨ x ∈ G) ∧ LowL G ls' ls
  | _, _ => False

/-- the contexts c' arose from c by recording names of T in the current context, names of G in any context, and by removals -/
structure Shape (T G : List Name) (c' c : Ctxs) : Prop where
  base : ∀ x ∈ c'.base, x ∈ c.base
  lv : ShapeL T G c'.levels c.levels

theorem LowL_refl (G : List Name) : ∀ ls : List (List Name), LowL G ls ls
  | [] => trivial
  | _ :: ls => ⟨fun _ hx => Or.inl hx, LowL_refl G ls⟩

theorem LowL_trans {G1 G2 : List Name} : ∀ {a b c : List (List Name)}, LowL G1 b a → LowL G2 c b → LowL (G1 ++ G2) c a
  | [], [], [], _, _ => trivial
  | _ :: _, _ :: _, _ :: _, h1, h2 =>
    ⟨fun x hx => (h2.1 x hx).elim (fun h => (h1.1 x h).imp_right (List.mem_append_left _)) fun h => Or.inr (List.mem_append_right _ h),
      LowL_trans h1.2 h2.2⟩
  | [], _ :: _, _, h1, _ | _ :: _, [], _, h1, _ => nomatch h1
  | _, [], _ :: _, _, h2 | _, _ :: _, [], _, h2 => nomatch h2

theorem LowL_mem {G : List Name} {x : Name} : ∀ {a b : List (List Name)}, LowL G b a → ∀ l' ∈ b, x ∈ l' → (∃ l ∈ a, x ∈ l) ∨ x ∈ G
  | l :: _, _ :: _, h, l', hl', hx => by
    rcases List.mem_cons.mp hl' with rfl | hl'
    · exact (h.1 x hx).imp_left fun h => ⟨l, List.mem_cons_self, h⟩
    · exact (LowL_mem h.2 l' hl' hx).imp_left fun ⟨l1, h1, h2⟩ => ⟨l1, List.mem_cons_of_mem _ h1, h2⟩
  | _, [], _, _, hl', _ => nomatch hl'
  | [], _ :: _, h, _, _, _ => nomatch h

variable {T G : List Name} {c' c : Ctxs}

theorem shapeL_levels : ShapeL T G c'.levels c.levels ↔
    (∀ x ∈ c'.top, x ∈ c.top ∨ x ∈ T ∨ x ∈ G) ∧ LowL G c'.levels.tail c.levels.tail := by
  rw [levels_eq c', levels_eq c]; exact Iff.rfl

theorem Shape.mk' (hb : ∀ x ∈ c'.base, x ∈ c.base) (ht : ∀ x ∈ c'.top, x ∈ c.top ∨ x ∈ T ∨ x ∈ G)
    (hl : LowL G c'.levels.tail c.levels.tail) : Shape T G c' c :=
  ⟨hb, shapeL_levels.mpr ⟨ht, hl⟩⟩

theorem Shape.top (h : Shape T G c' c) : ∀ x ∈ c'.top, x ∈ c.top ∨ x ∈ T ∨ x ∈ G := (shapeL_levels.mp h.lv).1

theorem Shape.low (h : Shape T G c' c) : LowL G c'.levels.tail c.levels.tail := (shapeL_levels.mp h.lv).2

theorem Shape.refl (c : Ctxs) : Shape [] [] c c :=
  .mk' (fun _ h => h) (fun _ h => Or.inl h) (LowL_refl _ _)

theorem Shape.seq {T1 G1 T2 G2 : List Name} {c0 c1 c2 : Ctxs} (h1 : Shape T1 G1 c1 c0) (h2 : Shape T2 G2 c2 c1) :
    Shape (T1 ++ T2) (G1 ++ G2) c2 c0 :=
  .mk' (fun x hx => h1.base x (h2.base x hx))
    (fun x hx => (h2.top x hx).elim
      (fun h => (h1.top x h).imp_right (Or.imp (List.mem_append_left _) (List.mem_append_left _)))
      fun h => Or.inr (h.imp (List.mem_append_right _) (List.mem_append_right _)))
    (LowL_trans h1.low h2.low)

theorem Shape.mono {T' : List Name} (h : Shape T G c' c) (hT : ∀ x ∈ T, x ∈ T') : Shape T' G c' c :=
  .mk' h.base (fun x hx => (h.top x hx).imp_right (Or.imp_left (hT x))) h.low

theorem Shape.addTop (c : Ctxs) (xs : List Name) : Shape xs [] (c.addTop xs) c :=
  .mk' (fun _ h => base_addTop c xs ▸ h) (fun x hx => by rw [top_addTop] at hx; exact (List.mem_append.mp hx).symm.imp_right Or.inl)
    (by rw [levels_addTop, levels_eq c]; exact LowL_refl _ _)

theorem Shape.afterTop (xs : List Name) {c0 c2 : Ctxs} (h : Shape T G c2 (c0.addTop xs)) : Shape (xs ++ T) G c2 c0 :=
  (Shape.addTop c0 xs).seq h

theorem Shape.thenTop {c0 c1 : Ctxs} (h : Shape T G c1 c0) (xs : List Name) : Shape (T ++ xs) G (c1.addTop xs) c0 :=
  List.append_nil G ▸ h.seq (Shape.addTop c1 xs)

theorem Shape.vis (h : Shape T G c' c) (x : Name) (hx : c'.vis x = true) : c.vis x = true ∨ x ∈ T ∨ x ∈ G := by
  rw [vis_iff] at hx ⊢
  rcases hx with ⟨l', hl', hxl⟩ | hb
  · rw [levels_eq c'] at hl'
    rw [levels_eq c]
    rcases List.mem_cons.mp hl' with rfl | hl'
    · exact (h.top x hxl).imp_left fun h => Or.inl ⟨_, List.mem_cons_self, h⟩
    · exact (LowL_mem h.low l' hl' hxl).imp (fun ⟨l, h1, h2⟩ => Or.inl ⟨l, List.mem_cons_of_mem _ h1, h2⟩) Or.inr
  · exact Or.inl (Or.inr (h.base x hb))

theorem Shape.not_vis (h : Shape T G c' c) {x : Name} (hv : c.vis x = false) (hT : x ∉ T) (hG : x ∉ G) : c'.vis x = false :=
  Bool.eq_false_iff.mpr fun hx => (h.vis x hx).elim (fun h => Bool.noConfusion (hv.symm.trans h)) fun h => h.elim hT hG

theorem LowL_last {G g' g : List Name} (h : ∀ x ∈ g', x ∈ g ∨ x ∈ G) : ∀ inner : List (List Name), LowL G (inner ++ [g']) (inner ++ [g])
  | [] => ⟨h, trivial⟩
  | _ :: r => ⟨fun _ hx => Or.inl hx, LowL_last h r⟩

theorem LowL_removeInner {x : Name} {g : List Name} {inner inner' : List (List Name)}
    (h : removeInner inner x = some inner') : LowL [] (inner' ++ [g]) (inner ++ [g]) := by
  fun_induction removeInner inner x generalizing inner' with
  | case1 => nomatch h
  | case2 t r x ht =>  -- the first context has `x`
    exact Option.some.inj h ▸ ⟨fun y hy => Or.inl (List.mem_filter.mp hy).1, LowL_refl _ _⟩
  | case3 t r x ht r' hr ih =>  -- a later one has it
    exact Option.some.inj h ▸ ⟨fun _ hx => Or.inl hx, ih hr⟩
  | case4 => nomatch h

theorem Shape.of_low (hb : ∀ x ∈ c'.base, x ∈ c.base) (hl : LowL G c'.levels c.levels) : Shape [] G c' c := by
  rw [levels_eq c', levels_eq c] at hl
  exact .mk' hb (fun x hx => (hl.1 x hx).imp_right Or.inr) hl.2

theorem Shape.addGlob (c : Ctxs) (xs : List Name) : Shape [] xs (c.addGlob xs) c :=
  .of_low (fun _ h => h) (LowL_last (fun _ hx => (List.mem_append.mp hx).symm) c.inner)

theorem Shape.remove (env : Env) (c : Ctxs) (x : Name) : Shape [] [] (c.remove env x) c := by
  obtain ⟨b, g, i⟩ := c
  cases hr : removeInner i x with
  | some i' =>
    rw [remove_some env b g hr]
    exact .of_low (fun _ h => h) (LowL_removeInner hr)
  | none =>
    obtain ⟨b', e, hb'⟩ := remove_none env b g x hr
    rw [e]
    refine .of_low (fun y hy => ?_) (LowL_last (fun y hy => Or.inl (List.mem_filter.mp hy).1) i)
    rcases hb' with rfl | ⟨rfl, _⟩
    · exact hy
    · exact (List.mem_filter.mp hy).1

theorem Shape.removeAll (env : Env) : ∀ (xs : List Name) (c : Ctxs), Shape [] [] (c.removeAll env xs) c
  | [], c => .refl c
  | x :: xs, c => (Shape.remove env c x).seq (Shape.removeAll env xs _)

theorem Shape.scope {c0 c1 : Ctxs} (ps : List Name) (h : Shape T G c1 (c0.push.addTop ps)) : Shape [] G c1.pop c0 := by
  have hl : LowL G c1.levels.tail c0.levels := h.low
  obtain ⟨b1, g1, i1⟩ := c1
  cases i1 with
  | nil =>
    rw [levels_eq c0] at hl
    nomatch hl
  | cons t r => exact .of_low h.base hl

variable {env : Env}

theorem mem_of_mem_ite {b : Bool} {x : Name} {l : List Name} (h : x ∈ if b then l else []) : x ∈ l := by
  split at h
  · exact h
  · nomatch h

variable {sid : Nat} {es : Exprs} {ys zs rs Y : List Name} {gx : Bool}

theorem hdr_shape (st : St) (hy : ∀ x ∈ ys, x ∈ Y) : Shape (exprAdds es ++ Y) [] (hdr env sid es ys zs rs gx st).2.c st.c := by
  rw [hdr_ctx]
  refine (Shape.addTop st.c _).mono fun x hx => ?_
  rcases List.mem_append.mp hx with h | h
  · exact List.mem_append_left _ (List.mem_append_right _ (vWL_sub_wAnyL _ _ es [] x h))
  rcases List.mem_append.mp h with h | h
  · exact List.mem_append_right _ (hy x h)
  · exact List.mem_append_left _ (List.mem_append_left _ (mem_of_mem_ite h))

theorem hdr_shape_nil (st : St) : Shape (exprAdds es) [] (hdr env sid es [] zs rs gx st).2.c st.c :=
  List.append_nil (exprAdds es) ▸ hdr_shape st (Y := []) fun _ h => h

theorem hdr_shape_then (st : St) (hy : ∀ x ∈ ys, x ∈ Y) {c' : Ctxs} (h : Shape T G c' (hdr env sid es ys zs rs gx st).2.c) :
    Shape (exprAdds es ++ (Y ++ T)) G c' st.c :=
  List.append_assoc .. ▸ (hdr_shape st hy).seq h

theorem shape_seq {T1 G1 T2 G2 : List Name} {f g : Step} (hf : ∀ st, Shape T1 G1 (f st).2.c st.c) (hg : ∀ st, Shape T2 G2 (g st).2.c st.c) :
    ∀ st, Shape (T1 ++ T2) (G1 ++ G2) (seq f g st).2.c st.c :=
  fun st => (hf st).seq (hg _)

theorem impAdds_sub (fx : Fixes) : ∀ (items : List ImpItem) (x : Name), x ∈ impAdds fx items → x ∈ impAdds Fixes.all items
  | [], _, hx => nomatch hx
  | it :: r, x, hx => by
    refine (List.mem_append.mp hx).elim (fun h => List.mem_append_left _ ?_) (fun h => List.mem_append_right _ (impAdds_sub fx r x h))
    revert h
    cases it.asname with
    | some n => exact id
    | none =>
      cases it.dotted with
      | false => exact id
      | true => exact mem_of_mem_ite

theorem fdef_shape {f : Name} {ps : List Name} {dfl : Exprs} {body : Stmts} {decos : Exprs}
    (hb : ∀ st, Shape (topAddsL body) (globAddsL body) (runL env st body).2.c st.c) (st : St) :
    Shape (f :: allWL (dfl.append decos)) (globAddsL body) (runS env st (.fdef sid f ps dfl body decos)).2.c st.c := by
  have hb := hb (enter env sid f ps dfl decos st).2
  rw [enter_ctx] at hb
  show Shape _ _ (xEs env [] _ decos).2.pop _
  rw [xEs_ctx]
  -- parameters, defaults, body, decorators: all in the pushed context; before it the walrus pre-pass and the function's name
  refine (((hb.thenTop _).scope _).afterTop _).mono fun x hx => ?_
  rw [List.append_nil] at hx
  exact (List.mem_cons.mp hx).elim (· ▸ List.mem_cons_self) fun h => List.mem_cons_of_mem _ (mem_of_mem_ite h)

mutual
theorem runS_shape (env : Env) : ∀ (s : Stmt) (st : St), Shape (topAdds s) (globAdds s) (runS env st s).2.c st.c
  | .expr _ e => fun st => by
    show Shape _ _ (preW env st.c (allW e)) _
    rw [preW_eq]
    exact (Shape.addTop st.c _).mono fun _ => mem_of_mem_ite
  | .assign .. => fun st => runS_assign ▸ hdr_shape st fun _ hx =>
      List.mem_append.mpr ((List.mem_append.mp hx).imp_right mem_of_mem_ite)
  | .annassign .. => fun st => runS_annassign ▸ hdr_shape st fun _ hx =>
      List.mem_append.mpr ((List.mem_append.mp hx).imp_right mem_of_mem_ite)
  | .augassign .. => fun st => runS_augassign ▸ hdr_shape_nil st
  | .ret .. => fun st => runS_ret ▸ hdr_shape_nil st
  | .imp _ items | .impFrom _ items => fun st => (Shape.addTop st.c _).mono (impAdds_sub env.fx items)
  | .global_ _ xs => fun st => Shape.addGlob st.c xs
  | .del .. => fun st => Shape.removeAll env _ st.c
  | .pass _ => fun st => Shape.refl st.c
  | .fdef _ _ _ _ body _ => fdef_shape (runL_shape env body)
  | .cdef _ _ _ body _ => fdef_shape (ps := []) (runL_shape env body)
  | .for_ _ _ _ body orelse => fun st => runS_for ▸
      hdr_shape_then st (fun _ h => h) (shape_seq (runL_shape env body) (runL_shape env orelse) _)
  | .while_ _ _ body orelse | .if_ _ _ body orelse => fun st => runS_if ▸
      hdr_shape_then st (Y := []) (fun _ h => h) (shape_seq (runL_shape env body) (runL_shape env orelse) _)
  | .with_ _ _ _ body => fun st => runS_with ▸ hdr_shape_then st (fun _ h => h) (runL_shape env body _)
  | .try_ _ body hs orelse final => fun st => runS_try ▸
      (shape_seq (runL_shape env body) (shape_seq (runH_shape env hs) (shape_seq (runL_shape env orelse) (runL_shape env final)))
        { st with c := st.c.addTop hs.names }).afterTop hs.names
theorem runL_shape (env : Env) : ∀ (ss : Stmts) (st : St), Shape (topAddsL ss) (globAddsL ss) (runL env st ss).2.c st.c
  | .nil => fun st => Shape.refl st.c
  | .cons s ss => fun st => runL_cons ▸ shape_seq (runS_shape env s) (runL_shape env ss) st
theorem runH_shape (env : Env) : ∀ (hs : Handlers) (st : St), Shape (topAddsH hs) (globAddsH hs) (runH env st hs).2.c st.c
  | .nil => fun st => Shape.refl st.c
  | .cons _ _ _ body rest => fun st => runH_cons ▸
      hdr_shape_then st (fun _ => mem_of_mem_ite) (shape_seq (runL_shape env body) (runH_shape env rest) _)
end

end Scope
