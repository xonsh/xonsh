/-
Event lists and the two interpreters of the ledger, for arbitrary resource and owner names: what a run leaves open in
terms of what the list opens and closes, renaming on top of an unrelated ledger, the handler table under well-nested swaps.
-/
import XonshVerif.Model.FdLedger
namespace FdLedger
variable {ρ κ : Type}

@[simp] def Ev.closed : Ev ρ κ → Option ρ
  | .cls r => some r
  | _ => none

@[simp] def Ev.opened : Ev ρ κ → Option ρ
  | .opn r => some r
  | _ => none

def closes (evs : List (Ev ρ κ)) : List ρ := evs.filterMap Ev.closed
def opensOf (evs : List (Ev ρ κ)) : List ρ := evs.filterMap Ev.opened

/-- an event list that swaps no handler -/
def noSig : List (Ev ρ κ) → Bool
  | [] => true
  | .opn _ :: rest => noSig rest
  | .cls _ :: rest => noSig rest
  | _ :: _ => false

/-- all that `runSig` looks at (`noSig [e]`: `e` is no handler event) -/
def sigPart (evs : List (Ev ρ κ)) : List (Ev ρ κ) := evs.filter fun e => !noSig [e]

section Projections
variable {α : Type} (a b : List (Ev ρ κ)) (e : Ev ρ κ) (l : List ρ) (k : κ) (ss : List Sig)

@[simp] theorem closes_nil : closes ([] : List (Ev ρ κ)) = [] := rfl
@[simp] theorem closes_cons : closes (e :: a) = e.closed.toList ++ closes a := by cases e <;> rfl
@[simp] theorem closes_append : closes (a ++ b) = closes a ++ closes b := List.filterMap_append
@[simp] theorem closes_flatMap (xs : List α) (f : α → List (Ev ρ κ)) :
    closes (xs.flatMap f) = xs.flatMap fun x => closes (f x) := List.filterMap_flatMap
@[simp] theorem closes_map_cls : closes (l.map (Ev.cls (κ := κ))) = l := by simp [closes, Function.comp_def]
@[simp] theorem closes_map_opn : closes (l.map (Ev.opn (κ := κ))) = [] := by simp [closes]
@[simp] theorem closes_installs : closes (installs (ρ := ρ) k ss) = [] := by simp [closes, installs]
@[simp] theorem closes_restores : closes (restores (ρ := ρ) k ss) = [] := by simp [closes, restores]

@[simp] theorem opensOf_nil : opensOf ([] : List (Ev ρ κ)) = [] := rfl
@[simp] theorem opensOf_cons : opensOf (e :: a) = e.opened.toList ++ opensOf a := by cases e <;> rfl
@[simp] theorem opensOf_append : opensOf (a ++ b) = opensOf a ++ opensOf b := List.filterMap_append
@[simp] theorem opensOf_flatMap (xs : List α) (f : α → List (Ev ρ κ)) :
    opensOf (xs.flatMap f) = xs.flatMap fun x => opensOf (f x) := List.filterMap_flatMap
@[simp] theorem opensOf_map_opn : opensOf (l.map (Ev.opn (κ := κ))) = l := by simp [opensOf, Function.comp_def]
@[simp] theorem opensOf_map_cls : opensOf (l.map (Ev.cls (κ := κ))) = [] := by simp [opensOf]
@[simp] theorem opensOf_installs : opensOf (installs (ρ := ρ) k ss) = [] := by simp [opensOf, installs]
@[simp] theorem opensOf_restores : opensOf (restores (ρ := ρ) k ss) = [] := by simp [opensOf, restores]

section
set_option linter.unusedSectionVars false
variable [DecidableEq ρ]
@[simp] theorem noSig_nil : noSig ([] : List (Ev ρ κ)) = true := rfl
@[simp] theorem noSig_opn (r : ρ) (l : List (Ev ρ κ)) : noSig (.opn r :: l) = noSig l := rfl
@[simp] theorem noSig_cls (r : ρ) (l : List (Ev ρ κ)) : noSig (.cls r :: l) = noSig l := rfl
end
@[simp] theorem noSig_append : noSig (a ++ b) = (noSig a && noSig b) := by
  induction a with
  | nil => simp
  | cons e a ih => cases e <;> simp [noSig, ih]
@[simp] theorem noSig_map_cls : noSig (l.map (Ev.cls (κ := κ))) = true := by
  induction l <;> simp_all
@[simp] theorem noSig_map_opn : noSig (l.map (Ev.opn (κ := κ))) = true := by
  induction l <;> simp_all

@[simp] theorem sigPart_nil : sigPart ([] : List (Ev ρ κ)) = [] := rfl
@[simp] theorem sigPart_append : sigPart (a ++ b) = sigPart a ++ sigPart b := List.filter_append ..
@[simp] theorem sigPart_flatMap (xs : List α) (f : α → List (Ev ρ κ)) :
    sigPart (xs.flatMap f) = xs.flatMap fun x => sigPart (f x) := List.filter_flatMap
@[simp] theorem sigPart_installs : sigPart (installs (ρ := ρ) k ss) = installs k ss := by
  simp [sigPart, installs, noSig]
@[simp] theorem sigPart_restores : sigPart (restores (ρ := ρ) k ss) = restores k ss := by
  simp [sigPart, restores, noSig]
@[simp] theorem sigPart_of_noSig {a : List (Ev ρ κ)} (h : noSig a = true) : sigPart a = [] := by
  induction a with
  | nil => rfl
  | cons e a ih =>
    cases e with
    | opn _ | cls _ => exact ih h
    | install _ _ | restore _ _ => cases h

theorem map_installs {ρ' κ' : Type} (f : ρ → ρ') (h : κ → κ') :
    (installs (ρ := ρ) k ss).map (Ev.map f h) = installs (h k) ss := by
  simp [installs, Ev.map]
theorem map_restores {ρ' κ' : Type} (f : ρ → ρ') (h : κ → κ') :
    (restores (ρ := ρ) k ss).map (Ev.map f h) = restores (h k) ss := by
  simp [restores, Ev.map]

end Projections

section Residue
variable [DecidableEq ρ]

@[simp] theorem runRes_nil (L : List ρ) : runRes (κ := κ) L [] = L := rfl
@[simp] theorem runRes_cons (L : List ρ) (e : Ev ρ κ) (evs) : runRes L (e :: evs) = runRes (stepRes L e) evs := rfl
theorem runRes_append (L : List ρ) (a b : List (Ev ρ κ)) : runRes L (a ++ b) = runRes (runRes L a) b := List.foldl_append

theorem mem_stepRes {x : ρ} {L : List ρ} {e : Ev ρ κ} :
    x ∈ stepRes L e ↔ x ∈ e.opened.toList ∨ (x ∈ L ∧ x ∉ e.closed.toList) := by
  cases e <;> simp [stepRes]

theorem mem_runRes {x : ρ} {evs : List (Ev ρ κ)} : ∀ {L : List ρ},
    x ∈ runRes L evs ↔ x ∈ runRes [] evs ∨ (x ∈ L ∧ x ∉ closes evs) := by
  induction evs with
  | nil => simp
  | cons e evs ih =>
    intro L
    rw [runRes_cons, ih, runRes_cons, ih (L := stepRes [] e)]
    -- both sides: left open by `evs` alone, or opened by `e` and not closed after, or in `L` and never closed
    simp only [mem_stepRes, closes_cons, List.mem_append, List.not_mem_nil, false_and, or_false, not_or, or_and_right,
      and_assoc, or_assoc]

theorem mem_runRes_append {x : ρ} {L : List ρ} {a b : List (Ev ρ κ)} :
    x ∈ runRes L (a ++ b) ↔ x ∈ runRes [] b ∨ (x ∈ runRes L a ∧ x ∉ closes b) := by
  rw [runRes_append, mem_runRes]

theorem residue_append_sub {a b : List (Ev ρ κ)} {A B : List ρ} (ha : runRes [] a ⊆ A) (hb : runRes [] b ⊆ B) :
    runRes [] (a ++ b) ⊆ A ++ B := fun _ hx =>
  (mem_runRes_append.1 hx).elim (fun h => List.mem_append_right _ (hb h)) fun h => List.mem_append_left _ (ha h.1)

theorem mem_of_mem_runRes {x : ρ} {evs : List (Ev ρ κ)} : ∀ {L}, x ∈ runRes L evs → x ∈ L ∨ x ∈ opensOf evs := by
  induction evs with
  | nil => exact Or.inl
  | cons e evs ih =>
    intro L h
    simp only [opensOf_cons, List.mem_append]
    rcases ih h with h | h
    · exact (mem_stepRes.1 h).elim (fun h => .inr (.inl h)) fun h => .inl h.1
    · exact .inr (.inr h)

theorem mem_runRes_of_not_closed {x : ρ} {evs : List (Ev ρ κ)} (hc : x ∉ closes evs) :
    ∀ {L}, x ∈ L ∨ x ∈ opensOf evs → x ∈ runRes L evs := by
  induction evs with
  | nil => simp
  | cons e evs ih =>
    intro L h
    simp only [closes_cons, opensOf_cons, List.mem_append, not_or] at hc h
    refine ih hc.2 ?_
    rcases h with h | h | h
    · exact .inl (mem_stepRes.2 (.inr ⟨h, hc.1⟩))
    · exact .inl (mem_stepRes.2 (.inl h))
    · exact .inr h

theorem runRes_nil_of_no_opens {evs : List (Ev ρ κ)} (h : opensOf evs = []) : runRes [] evs = [] :=
  List.eq_nil_iff_forall_not_mem.2 fun x hx => by simpa [h] using mem_of_mem_runRes hx

theorem mem_runRes_append_closing {x : ρ} {L : List ρ} {a b : List (Ev ρ κ)} (hb : opensOf b = []) :
    x ∈ runRes L (a ++ b) ↔ x ∈ runRes L a ∧ x ∉ closes b := by
  simp [mem_runRes_append, runRes_nil_of_no_opens hb]

theorem residue_nil_of_closed {a cl : List (Ev ρ κ)} (hopen : opensOf cl = []) (h : ∀ x ∈ runRes [] a, x ∈ closes cl) :
    runRes [] (a ++ cl) = [] :=
  List.eq_nil_iff_forall_not_mem.2 fun x hx =>
    have ⟨h1, h2⟩ := (mem_runRes_append_closing hopen).1 hx
    h2 (h x h1)

theorem runRes_extra_closes (L : List ρ) (a b : List (Ev ρ κ)) (xs : List ρ) :
    runRes L (a ++ xs.map Ev.cls ++ b) ⊆ runRes L (a ++ b) := fun x hx => by
  simp only [mem_runRes_append, mem_runRes_append_closing (opensOf_map_cls xs)] at hx ⊢
  exact hx.imp_right fun ⟨⟨h', _⟩, hb⟩ => ⟨h', hb⟩

theorem runRes_map {ρ' κ' : Type} [DecidableEq ρ'] (f : ρ → ρ') (hf : Function.Injective f) (h : κ → κ') (L0 : List ρ')
    (hL0 : ∀ r, f r ∉ L0) (evs : List (Ev ρ κ)) :
    ∀ A : List ρ, runRes (A.map f ++ L0) (evs.map (Ev.map f h)) = (runRes A evs).map f ++ L0 := by
  induction evs with
  | nil => intro A; rfl
  | cons e evs ih =>
    intro A
    cases e with
    | opn r => simpa [Ev.map, stepRes] using ih (r :: A)
    | cls r =>
      simp only [List.map_cons, Ev.map, runRes_cons, stepRes, List.filter_append]
      rw [← ih, List.filter_map, (List.filter_eq_self (l := L0)).2 fun x hx => by simpa using fun e : x = f r => hL0 r (e ▸ hx)]
      congr 3
      exact List.filter_congr fun x _ => by simp [hf.eq_iff]
    | install k s => simpa [Ev.map, stepRes] using ih A
    | restore k s => simpa [Ev.map, stepRes] using ih A

theorem pair_injective {α β : Type} (g : α) : Function.Injective (fun b : β => (g, b)) := fun _ _ h => (Prod.mk.inj h).2

theorem runRes_atGen {g : Nat} {evs : List CEv} {L0 : List (Nat × Res)} (hf : ∀ r ∈ L0, r.1 ≠ g) :
    runRes L0 (atGen g evs) = (runRes [] evs).map (fun r => (g, r)) ++ L0 :=
  runRes_map (fun r : Res => (g, r)) (pair_injective g) (fun k : Nat => (g, k)) L0 (fun _ hr => hf _ hr rfl) evs []

end Residue

section
set_option linter.unusedSectionVars false
variable [DecidableEq ρ] [DecidableEq κ]
@[simp] theorem runSig_nil (S : SigSt κ) : runSig (ρ := ρ) S [] = S := rfl
@[simp] theorem runSig_cons (S : SigSt κ) (e : Ev ρ κ) (evs) : runSig S (e :: evs) = runSig (stepSig S e) evs := rfl
end

section Handlers
variable [DecidableEq κ]

theorem runSig_append (S : SigSt κ) (a b : List (Ev ρ κ)) : runSig S (a ++ b) = runSig (runSig S a) b := List.foldl_append

theorem runSig_noSig {evs : List (Ev ρ κ)} (h : noSig evs = true) (S : SigSt κ) : runSig S evs = S := by
  induction evs with
  | nil => rfl
  | cons e evs ih =>
    cases e with
    | opn _ | cls _ => exact ih h
    | install _ _ | restore _ _ => cases h

omit [DecidableEq κ] in
theorem runSig_map_sigPart {ρ' κ' : Type} [DecidableEq κ'] (f : ρ → ρ') (h : κ → κ') (evs : List (Ev ρ κ)) :
    ∀ S : SigSt κ', runSig S ((sigPart evs).map (Ev.map f h)) = runSig S (evs.map (Ev.map f h)) := by
  induction evs with
  | nil => intro S; rfl
  | cons e evs ih => intro S; cases e <;> simpa [sigPart, noSig, Ev.map, stepSig] using ih _

/-- proc k remembers no old handler -/
def FreshKey (S : SigSt κ) (k : κ) : Prop := ∀ s, lookupKey (k, s) S.saved = none

/-- the signal lists a proc object swaps: none, SIGINT, or all four -/
def Allowed (ss : List Sig) : Prop := ss = [] ∨ ss = [.int] ∨ ss = [.int, .tstp, .quit, .winch]

set_option linter.unusedSectionVars false in
theorem set_get_self (h : Handlers κ) (s : Sig) : h.set s (h.get s) = h := by
  cases s <;> rfl

theorem ins_res_cancel (S : SigSt κ) (k : κ) (ss : List Sig) (ha : Allowed ss) :
    runSig (ρ := ρ) S (installs k ss ++ restores k ss) = S := by
  obtain ⟨⟨a, b, c, d⟩, saved⟩ := S
  rcases ha with rfl | rfl | rfl
  · rfl
  · simp [installs, restores, stepSig, lookupKey, eraseKey, Handlers.set, Handlers.get]
  · simp [installs, restores, stepSig, lookupKey, eraseKey, Handlers.set, Handlers.get]

theorem res_fresh (S : SigSt κ) (k : κ) (ss : List Sig) (hf : FreshKey S k) : runSig (ρ := ρ) S (restores k ss) = S := by
  induction ss with
  | nil => rfl
  | cons s ss ih => simp only [restores, List.map_cons, runSig_cons, stepSig, hf s]; exact ih

theorem lookupKey_ins_other (S : SigSt κ) (k k' : κ) (hne : k' ≠ k) (ss : List Sig) (s : Sig) :
    lookupKey (k', s) (runSig (ρ := ρ) S (installs k ss)).saved = lookupKey (k', s) S.saved := by
  induction ss generalizing S with
  | nil => rfl
  | cons a ss ih =>
    simp only [installs, List.map_cons, runSig_cons] at ih ⊢
    rw [ih]
    simp [stepSig, lookupKey, hne.symm]

theorem fresh_ins_other {S : SigSt κ} {k k' : κ} (hne : k' ≠ k) (ss : List Sig) (hf : FreshKey S k') :
    FreshKey (runSig (ρ := ρ) S (installs k ss)) k' := fun s => by
  rw [lookupKey_ins_other S k k' hne]; exact hf s

section Nested
variable {α : Type} (key : α → κ) (sg : α → List Sig)

theorem fresh_flatMap_ins {k : κ} (ps : List α) (hne : ∀ p ∈ ps, key p ≠ k) : ∀ {S : SigSt κ}, FreshKey S k →
    FreshKey (runSig (ρ := ρ) S (ps.flatMap fun p => installs (key p) (sg p))) k := by
  induction ps with
  | nil => exact fun h => h
  | cons p rest ih =>
    intro S h
    rw [List.flatMap_cons, runSig_append]
    exact ih (fun q hq => hne q (by simp [hq])) (fresh_ins_other (hne p (by simp)).symm _ h)

/-- procs swap in order, something leaves the table reached alone, they restore last first: all is as before (`saved` is a
stack: whatever it held stays below) -/
theorem nest_id (hsg : ∀ p, Allowed (sg p)) (mid : List (Ev ρ κ)) (ps : List α) :
    ∀ S, runSig (runSig (ρ := ρ) S (ps.flatMap fun p => installs (key p) (sg p))) mid =
        runSig (ρ := ρ) S (ps.flatMap fun p => installs (key p) (sg p)) →
      runSig S (ps.flatMap (fun p => installs (key p) (sg p)) ++ mid ++
        ps.reverse.flatMap (fun p => restores (key p) (sg p))) = S := by
  induction ps with
  | nil => intro S hmid; simpa using hmid
  | cons p rest ih =>
    intro S hmid
    rw [List.flatMap_cons, runSig_append] at hmid
    simp only [List.flatMap_cons, List.reverse_cons, List.flatMap_append, List.flatMap_nil, List.append_nil]
    rw [List.append_assoc, List.append_assoc, runSig_append, ← List.append_assoc, ← List.append_assoc, runSig_append,
      ih _ hmid, ← runSig_append]
    exact ins_res_cancel S (key p) _ (hsg p)

end Nested

end Handlers

end FdLedger
