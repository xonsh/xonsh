/-
C02: every record the walk writes is what the property demands (`RecOk`), and the walk keeps the simulation invariant
while no unrepaired mechanism has been triggered (`Post`).
-/
import XonshVerif.Lemmas.ScopeExpr
import XonshVerif.Lemmas.ScopeSim
import XonshVerif.Lemmas.ScopeRun
namespace Scope

/-- what the property demands of one record -/
def RecOk (r : Rec) : Prop :=
  (r.ok = true → r.tame = true → r.g = true → ∀ d ∈ r.decs, d.v ≠ Verdict.offer) ∧
  (r.shadow = true → r.tame = true → r.g = true → ∀ d ∈ r.decs, d.v ≠ Verdict.builtin)

/-- while no known mechanism has been triggered, the contexts cover the property's scopes -/
def Good (env : Env) (st : St) : Prop := st.tame = true → st.g = true → Sim env st.s st.c

structure Post (env : Env) (st : St) (r : List Rec × St) : Prop where
  recs : ∀ rec ∈ r.1, RecOk rec
  good : Good env r.2
  len : r.2.s.frames.length = st.s.frames.length
  gmono : r.2.g = true → st.g = true
  tmono : r.2.tame = true → st.tame = true

variable {env : Env} {st : St}

theorem Post.seq {r1 r2 : List Rec × St} (h1 : Post env st r1) (h2 : Post env r1.2 r2) :
    Post env st (r1.1 ++ r2.1, r2.2) :=
  ⟨fun rec hr => (List.mem_append.mp hr).elim (h1.recs rec) (h2.recs rec),
   h2.good, h2.len.trans h1.len, fun h => h1.gmono (h2.gmono h), fun h => h1.tmono (h2.tmono h)⟩

theorem Post.nil (env : Env) (st : St) (h : Good env st) : Post env st ([], st) :=
  ⟨fun _ hr => (nomatch hr), h, rfl, id, id⟩

theorem Post.then {r : List Rec × St} {g : Step} (h1 : Post env st r) (hg : ∀ st, Good env st → Post env st (g st)) :
    Post env st (r.1 ++ (g r.2).1, (g r.2).2) :=
  h1.seq (hg _ h1.good)

theorem post_seq {f g : Step} (hf : ∀ st, Good env st → Post env st (f st)) (hg : ∀ st, Good env st → Post env st (g st)) :
    ∀ st, Good env st → Post env st (seq f g st) :=
  fun st h => (hf st h).then hg

theorem Post.one {r : Rec} {st' : St} (hr : RecOk r) (good : Good env st') (len : st'.s.frames.length = st.s.frames.length)
    (gmono : st'.g = true → st.g = true) (tmono : st'.tame = true → st.tame = true) : Post env st ([r], st') :=
  ⟨fun _ h => by rw [List.mem_singleton.mp h]; exact hr, good, len, gmono, tmono⟩

theorem recOk_nodecs (sid : Nat) (a c d e : Bool) (b : List Name) : RecOk ⟨sid, a, b, c, d, e, []⟩ :=
  ⟨fun _ _ _ _ hd => (nomatch hd), fun _ _ _ _ hd => nomatch hd⟩

theorem visit_keep (es : Exprs) {bound : List Name} {c : Ctxs} (hb : ∀ x ∈ bound, c.vis x = true)
    (hf : freeOkL bound es = true) (hg : gVL env.fx es = true) : ∀ d ∈ (xEs env [] c es).1, d.v ≠ Verdict.offer :=
  fun d hd e => nomatch (xEs_keep env es [] bound c (fun x hx => Or.inl (hb x hx)) hf hg d hd).symm.trans e

theorem freeOkL_append (b : List Name) : ∀ (xs ys : Exprs), freeOkL b (xs.append ys) = (freeOkL b xs && freeOkL b ys)
  | .nil, _ => rfl
  | .cons e es, ys => by
    show (freeOk b e && freeOkL b (es.append ys)) = _
    rw [freeOkL_append b es ys, ← Bool.and_assoc]; rfl

theorem allWL_append : ∀ (xs ys : Exprs), allWL (xs.append ys) = allWL xs ++ allWL ys
  | .nil, _ => rfl
  | .cons e es, ys => by
    show allW e ++ allWL (es.append ys) = _
    rw [allWL_append es ys, ← List.append_assoc]; rfl

theorem gVL_append (fx : Fixes) : ∀ (xs ys : Exprs), gVL fx (xs.append ys) = (gVL fx xs && gVL fx ys)
  | .nil, _ => rfl
  | .cons e es, ys => by
    show (gV fx e && gVL fx (es.append ys)) = _
    rw [gVL_append fx es ys, ← Bool.and_assoc]; rfl

theorem preW_guard {c : Ctxs} {ws : List Name} (h : (env.fx.walrus || ws.isEmpty) = true) : preW env c ws = c.addTop ws := by
  rw [preW_eq]
  rcases Bool.or_eq_true_iff.mp h with h | h
  · rw [h]; rfl
  · rw [List.isEmpty_iff.mp h, ite_self]

theorem gExprStmt_spec {e : Expr} (c : Ctxs) (h : gExprStmt env.fx e = true) :
    preW env c (allW e) = c.addTop (allW e) ∧ (isLam e = true ∨ env.fx.lam = true ∨ lamOk e = true) := by
  have ⟨hw, hl⟩ := Bool.and_eq_true_iff.mp h
  refine ⟨preW_guard hw, ?_⟩
  simpa only [Bool.or_eq_true, or_assoc, or_left_comm] using hl

theorem gHeader_spec {xs ys : Exprs} (c : Ctxs) (h : gHeader env.fx (xs.append ys) = true) :
    preW env c (allWL (xs.append ys)) = c.addTop (allWL (xs.append ys)) ∧ gVL env.fx xs = true ∧ gVL env.fx ys = true := by
  have ⟨hv, hw⟩ := Bool.and_eq_true_iff.mp h
  rw [gVL_append] at hv
  exact ⟨preW_guard hw, Bool.and_eq_true_iff.mp hv⟩

/-- nothing is tested, or the pre-pass has recorded the walrus targets; either way they are recorded after the visit -/
theorem gExprs_spec {es : Exprs} (h : gExprs env.fx es = true) : gVL env.fx es = true ∧
    (decFreeL es = true ∨ ∀ c, preW env c (allWL es) = c.addTop (allWL es)) ∧
    ∀ x ∈ allWL es, x ∈ vWL env.fx.lam env.fx.comp [] es ∨ env.fx.walrus = true := by
  have ⟨hv, hw⟩ := Bool.and_eq_true_iff.mp h
  refine ⟨hv, ?_⟩
  rcases Bool.or_eq_true_iff.mp hw with hw | hw
  · exact ⟨Or.inr fun _ => preW_guard (by rw [hw]; rfl), fun _ _ => Or.inr hw⟩
  · have ⟨he, hs⟩ := Bool.and_eq_true_iff.mp hw
    refine ⟨?_, fun x hx => Or.inl (subset_iff.mp hs x hx)⟩
    exact (Bool.or_eq_true_iff.mp he).symm.imp_right fun he _ => preW_guard (by rw [he]; exact Bool.or_true _)

theorem hdr_post {sid : Nat} {es : Exprs} {ys zs rs : List Name} {gx : Bool}
    (hz : gx = true → ∀ x ∈ zs, x ∈ ys ∨ x ∈ st.c.top) (h : Good env st) :
    Post env st (hdr env sid es ys zs rs gx st) := by
  have guard : (st.g && gExprs env.fx es && gx) = true → st.g = true ∧ gExprs env.fx es = true ∧ gx = true := fun hg =>
    have ⟨h12, h3⟩ := Bool.and_eq_true_iff.mp hg
    ⟨(Bool.and_eq_true_iff.mp h12).1, (Bool.and_eq_true_iff.mp h12).2, h3⟩
  refine Post.one ⟨fun hok ht hg => ?_, fun hsh => nomatch hsh⟩ (fun ht hg => ?_) (length_bind _ _) (fun hg => (guard hg).1) id
  · have ⟨hg1, hg2, _⟩ := guard hg
    have ⟨hgv, hw, _⟩ := gExprs_spec hg2
    show ∀ d ∈ (xEs env [] ((preW env st.c (allWL es)).addTop ys) es).1, _
    rcases hw with hdf | hw
    · exact xEs_decFree env es [] _ hdf ▸ List.forall_mem_nil _
    · rw [hw]
      exact visit_keep es (fun x hx => vis_addTop_of_vis ys ((h ht hg1).vis_addTop _ x hx)) (Bool.and_eq_true_iff.mp hok).1 hgv
  · have ⟨hg1, hg2, hg3⟩ := guard hg
    show Sim env (st.s.bind (allWL es ++ zs)) (hdr env sid es ys zs rs gx st).2.c
    rw [hdr_ctx]
    refine (h ht hg1).record _ fun x hx => ?_
    rcases List.mem_append.mp hx with h1 | h1
    · rcases (gExprs_spec hg2).2.2 x h1 with h2 | h2 <;> simp [h1, h2]
    · rcases hz hg3 x h1 with h2 | h2 <;> simp [h2]

theorem hdr_post_nil {sid : Nat} {es : Exprs} {ys rs : List Name} {gx : Bool} (h : Good env st) :
    Post env st (hdr env sid es ys [] rs gx st) :=
  hdr_post (fun _ _ hx => nomatch hx) h

/-- assignment targets: all their names are recorded (`nested` repaired), or the guard says the recorded ones suffice -/
theorem targets_recorded {n : Bool} {zs full ys more top : List Name} (hzs : ∀ x ∈ zs, x ∈ full) (hm : ∀ x ∈ full, x ∈ more)
    (hg : (n || subset full ys) = true) : ∀ x ∈ zs, x ∈ ys ++ (if n then more else []) ∨ x ∈ top := fun x hx => by
  rcases Bool.or_eq_true_iff.mp hg with hn | hn
  · rw [hn]; exact Or.inl (List.mem_append_right _ (hm x (hzs x hx)))
  · exact Or.inl (List.mem_append_left _ (subset_iff.mp hn x (hzs x hx)))

theorem userBound_inv {s : Sp} : ∀ {e : Expr}, s.userBound e = true → ∃ x, e = .name x
  | .name x => fun _ => ⟨x, rfl⟩
  | .lam _ _ | .const _ | .node _ _ | .boolop _ | .unary _ | .comp _ _ _ _ | .walrus _ _ => fun h => nomatch h

theorem post_expr (sid : Nat) (e : Expr) (st : St) (h : Good env st) : Post env st (runS env st (.expr sid e)) := by
  refine Post.one ⟨fun hok ht hg => ?_, fun hsh ht hg => ?_⟩ (fun ht hg => ?_) (length_bind _ _)
    (fun hg => (Bool.and_eq_true_iff.mp hg).1) id
  · have ⟨hg1, hg2⟩ := Bool.and_eq_true_iff.mp hg
    have ⟨hpw, hl⟩ := gExprStmt_spec st.c hg2
    show ∀ d ∈ xExprStmt env (preW env st.c (allW e)) e, _
    rw [hpw]
    rw [Sp.readsOk, allWL_one] at hok
    exact xExprStmt_keep ((h ht hg1).vis_addTop _)
      (Bool.and_eq_true_iff.mp (Bool.and_eq_true_iff.mp hok).1).1 hl
  · have hs := h ht (Bool.and_eq_true_iff.mp hg).1
    obtain ⟨x, rfl⟩ := userBound_inv hsh
    refine xExprStmt_name ?_
    rw [preW_eq]
    refine not_bareBuiltin ?_
    rcases Bool.or_eq_true_iff.mp hsh with hu | hf
    · exact Or.inl (hs.sessUser x (List.contains_iff_mem.mp hu))
    · obtain ⟨f, hf, hx⟩ := List.any_eq_true.mp hf
      exact Or.inr (Sub2_mem (hs.addTop _).frames f hf x (List.contains_iff_mem.mp hx))
  · have ⟨hg1, hg2⟩ := Bool.and_eq_true_iff.mp hg
    show Sim env (st.s.bind (allW e)) (preW env st.c (allW e))
    rw [(gExprStmt_spec st.c hg2).1]
    exact (h ht hg1).record _ fun _ => Or.inl

theorem post_del (sid : Nat) (names nested : List Name) (st : St) (h : Good env st) :
    Post env st (runS env st (.del sid names nested)) := by
  refine Post.one (recOk_nodecs ..) (fun ht hg => ?_) (length_delAll _ _) (fun hg => (Bool.and_eq_true_iff.mp hg).1)
    (fun ht => (Bool.and_eq_true_iff.mp ht).1)
  have ⟨ht1, ht2⟩ := Bool.and_eq_true_iff.mp ht
  have ⟨hg1, hg2⟩ := Bool.and_eq_true_iff.mp hg
  show Sim env (st.s.delAll (names ++ nested)) (st.c.removeAll env (names ++ if env.fx.delSeq then nested else []))
  cases env.fx.delSeq
  · -- the transformer strikes `names` only; the property deletes `nested` as well
    rw [tameAll_append] at ht2
    rw [gDel_append] at hg2
    rw [if_neg Bool.false_ne_true, List.append_nil, delAll_append]
    exact ((h ht1 hg1).strikeAll names (Bool.and_eq_true_iff.mp ht2).1 (Bool.and_eq_true_iff.mp hg2).1).specDelAll nested
  · exact (h ht1 hg1).strikeAll (names ++ nested) ht2 hg2

theorem visList_pop (env : Env) (s : Sp) (x : Name) (h : x ∈ s.pop.visList env) : x ∈ s.visList env := by
  simp only [Sp.visList, Sp.pop, List.mem_append, List.mem_flatten] at h ⊢
  exact h.imp_right (Or.imp_right fun ⟨f, hf, hx⟩ => ⟨f, List.mem_of_mem_tail hf, hx⟩)

theorem post_fdef {sid : Nat} {f : Name} {ps : List Name} {dfl : Exprs} {body : Stmts} {decos : Exprs}
    (hb : ∀ st, Good env st → Post env st (runL env st body)) (st : St) (h : Good env st) :
    Post env st (runS env st (.fdef sid f ps dfl body decos)) := by
  have guard : (st.g && gHeader env.fx (dfl.append decos)) = true → st.g = true ∧
      preW env st.c (allWL (dfl.append decos)) = st.c.addTop (allWL (dfl.append decos)) ∧ gVL env.fx dfl = true ∧ gVL env.fx decos = true :=
    fun hg => ⟨(Bool.and_eq_true_iff.mp hg).1, gHeader_spec st.c (Bool.and_eq_true_iff.mp hg).2⟩
  have len1 : (enter env sid f ps dfl decos st).2.s.frames.length = st.s.frames.length + 1 := by
    show (_ :: _).length = _
    rw [List.length_cons, length_bind, length_bind]
  have good1 : Good env (enter env sid f ps dfl decos st).2 := fun ht hg => by
    have ⟨hg1, hpw, _⟩ := guard hg
    show Sim env (((st.s.bind _).bind [f]).push ps) (xEs env [] _ dfl).2
    rw [xEs_ctx, hpw]
    exact ((((h ht hg1).record _ fun _ => Or.inl).record [f] fun _ => Or.inl).push ps).addTop _
  have pb := hb _ good1
  rw [runS_fdef]
  refine ⟨fun rec hr => ?_, fun ht hg => ?_, ?_, fun hg => (guard (pb.gmono hg)).1, pb.tmono⟩
  · rcases List.mem_append.mp hr with hr | hr
    · rw [List.mem_singleton.mp hr]
      refine ⟨fun hok ht hg => ?_, fun hsh => nomatch hsh⟩
      have ⟨hg1, hpw, hgv, _⟩ := guard hg
      rw [Sp.readsOk, freeOkL_append] at hok
      refine visit_keep dfl (fun x hx => ?_) (Bool.and_eq_true_iff.mp (Bool.and_eq_true_iff.mp hok).1).1 hgv
      rw [hpw]
      exact vis_addTop_of_vis ps (vis_addTop_of_vis [f] ((h ht hg1).vis_addTop _ x hx))
    rcases List.mem_append.mp hr with hr | hr
    · exact pb.recs rec hr
    · rw [List.mem_singleton.mp hr]
      -- the decorators are visited in the body's scope: what the scopes around the `def` see, those inside it see too
      exact ⟨fun hok ht hg => visit_keep decos (fun x hx => (pb.good ht hg).vis x (visList_pop env _ x hx))
        (Bool.and_eq_true_iff.mp hok).2 (guard (pb.gmono hg)).2.2.2, fun hsh => nomatch hsh⟩
  · show Sim env _ (xEs env [] _ decos).2.pop
    rw [xEs_ctx]
    -- the body leaves as many frames as it found, so the pushed one is there to be popped
    refine ((pb.good ht hg).addTop _).pop ?_
    rw [pb.len, len1, (h (pb.tmono ht) (guard (pb.gmono hg)).1).length]
    exact Nat.le_add_left 2 _
  · show (List.tail _).length = _
    rw [List.length_tail, pb.len, len1]; rfl

mutual
theorem tBinds_sub : ∀ (t : Tgt) (x : Name), x ∈ tBinds t → x ∈ tNames t
  | .name _ | .star _ => fun _ h => h
  | .attr _ => fun _ h => nomatch h
  | .seq _ ts => tBindsL_sub ts
theorem tBindsL_sub : ∀ (ts : Tgts) (x : Name), x ∈ tBindsL ts → x ∈ tNamesL ts
  | .nil => fun _ h => nomatch h
  | .cons t ts => fun x h => (List.mem_append.mp h).elim (fun h => List.mem_append_left _ (tBinds_sub t x h))
      (fun h => List.mem_append_right _ (tBindsL_sub ts x h))
end

theorem post_imp (sid : Nat) (items : List ImpItem) (st : St) (h : Good env st) : Post env st (runS env st (.imp sid items)) :=
  Post.one (recOk_nodecs ..) (fun ht hg =>
      have ⟨hg1, hg2⟩ := Bool.and_eq_true_iff.mp hg
      (h ht hg1).record _ fun x hx => Or.inl (subset_iff.mp hg2 x hx))
    (length_bind _ _) (fun hg => (Bool.and_eq_true_iff.mp hg).1) id

mutual
theorem runS_post (env : Env) : ∀ (s : Stmt) (st : St), Good env st → Post env st (runS env st s)
  | .expr sid e => post_expr sid e
  | .assign _ tgts _ => fun st h => runS_assign ▸ hdr_post (targets_recorded (fun _ h => h) (tBindsL_sub tgts)) h
  | .annassign _ _ _ v => fun st h => runS_annassign ▸ hdr_post (targets_recorded (fun _ hx => by
      cases v with
      | nil => nomatch hx
      | cons _ _ => exact hx) fun _ h => h) h
  | .augassign .. => fun st h => runS_augassign ▸ hdr_post_nil h
  | .ret .. => fun st h => runS_ret ▸ hdr_post_nil h
  | .imp sid items | .impFrom sid items => post_imp sid items
  | .global_ _ xs => fun _ h => Post.one (recOk_nodecs ..) (fun ht hg => (h ht hg).global xs) (length_bindLast xs _) id id
  | .del sid names nested => post_del sid names nested
  | .pass _ => fun _ h => Post.one (recOk_nodecs ..) h rfl id id
  | .fdef _ _ _ _ body _ => post_fdef (runL_post env body)
  | .cdef _ _ _ body _ => post_fdef (ps := []) (runL_post env body)
  | .for_ _ tgt _ body orelse => fun st h => runS_for ▸
      (hdr_post (fun _ x hx => Or.inl (tBinds_sub tgt x hx)) h).then (post_seq (runL_post env body) (runL_post env orelse))
  | .while_ _ _ body orelse | .if_ _ _ body orelse => fun st h => runS_if ▸
      (hdr_post_nil h).then (post_seq (runL_post env body) (runL_post env orelse))
  | .with_ _ _ tgts body => fun st h => runS_with ▸
      (hdr_post (fun _ x hx => Or.inl (tBindsL_sub tgts x hx)) h).then (runL_post env body)
  | .try_ _ body hs orelse final => fun st h =>
    have := runS_try ▸
      post_seq (runL_post env body) (post_seq (runH_post env hs) (post_seq (runL_post env orelse) (runL_post env final)))
        { st with c := st.c.addTop hs.names } fun ht hg => (h ht hg).addTop _
    ⟨this.recs, this.good, this.len, this.gmono, this.tmono⟩
theorem runL_post (env : Env) : ∀ (ss : Stmts) (st : St), Good env st → Post env st (runL env st ss)
  | .nil => Post.nil env
  | .cons s ss => fun st => runL_cons ▸ post_seq (runS_post env s) (runL_post env ss) st
theorem runH_post (env : Env) : ∀ (hs : Handlers) (st : St), Good env st → Post env st (runH env st hs)
  | .nil => Post.nil env
  | .cons _ _ _ body rest => fun st h => runH_cons ▸
    -- the handler's name was recorded when the `try` was entered: repaired, it is recorded again; else the guard says it is still there
    (hdr_post (fun hg x hx => (Bool.or_eq_true_iff.mp hg).elim
        (fun hh => Or.inl (by rw [hh]; exact hx)) (fun hh => Or.inr (subset_iff.mp hh x hx))) h).then
      (post_seq (runL_post env body) (runH_post env rest))
end

end Scope
