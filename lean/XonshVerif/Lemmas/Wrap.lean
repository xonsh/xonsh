import XonshVerif.Model.Wrap
import XonshVerif.Lemmas.ListFacts
/-
C03 — the right-strip of `subproc_toks` stays inside the text and stops at a non-blank character; `erase` undoes the
insertion of `![` and `]`, stated over the three pieces of the line.
-/
namespace Wrap

theorem rstripLen_le (l : Line) : rstripLen l ≤ l.length :=
  l.length_reverse ▸ (List.dropWhile_sublist isSpace).length_le

theorem endOf_le (line : Line) (e0 : Nat) : endOf line e0 ≤ e0 ∧ endOf line e0 ≤ line.length := by
  have := rstripLen_le (line.take e0)
  rw [List.length_take] at this
  rw [endOf]; omega

theorem rstripLen_eq (l : Line) (h : ∀ c, l.getLast? = some c → isSpace c = false) : rstripLen l = l.length := by
  rw [rstripLen, List.dropWhile_id _ _ (fun c hc => h c (List.head?_reverse ▸ hc)), List.length_reverse]

theorem endOf_eq (line : Line) (e0 : Nat) (h0 : 0 < e0) (hle : e0 ≤ line.length)
    (hnb : ∀ c, line[e0 - 1]? = some c → isSpace c = false) : endOf line e0 = e0 := by
  rw [endOf, rstripLen_eq, List.length_take, Nat.min_eq_left hle]
  intro c hc
  rw [List.getLast?_take, if_neg (by omega), List.getElem?_eq_getElem (by omega)] at hc
  exact hnb c (by rw [List.getElem?_eq_getElem (by omega)]; exact hc)

theorem erase_wrapped (a m d : Line) :
    erase (a ++ ['!', '['] ++ m ++ [']'] ++ d) a.length (a.length + m.length) = a ++ m ++ d := by
  have e1 : (a ++ ['!', '['] ++ m ++ [']'] ++ d).take a.length = a := by
    simp only [List.append_assoc, List.take_left]
  have e2 : (a ++ ['!', '['] ++ m ++ [']'] ++ d).drop (a.length + 2) = m ++ ([']'] ++ d) := by
    simp only [List.append_assoc]; rw [← List.append_assoc a]; exact List.drop_left' (by simp)
  have e3 : (a ++ ['!', '['] ++ m ++ [']'] ++ d).drop (a.length + m.length + 3) = d :=
    List.drop_left' (by simp; omega)
  rw [erase, e1, e2, e3, Nat.add_sub_cancel_left, List.take_left]

end Wrap
