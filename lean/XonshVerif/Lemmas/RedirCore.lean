/-
C07 helper lemmas, part 2: ONE STAGE (model only — no generated tables).  The model of a stage whose redirects claim its
three streams in a given way (`modelStage` of `builtOf`: the incoming pipe, `inAt`; the rest of `cmds_to_specs`, `afterIn`;
`stageOut`) against the documented routing of such a stage (`specCoreB`): two finite decision tables, compared by case
analysis (`core_fixed`, `core_outside`) once three facts have taken stdin out of it.
 1. `afterIn` neither writes the stdin slot (`Keeps`) nor reads it (`deliver … (b.withSin x)` for every `x`).
 2. `stageOut` reads the slot for the source of the stage and for nothing else (`stageOut_src`).
 3. Past the incoming pipe "first stage?" is asked once more, by the test for an unthreadable alias in a pipeline of several
    stages (`afterIn_first`); the documentation has the same test.
So a stage at ANY position, with or without `<`, is one of the two errors that concern stdin, or else what a FIRST stage
without `<` delivers with the source put in (`modelStage_sin`; the documentation likewise: `specCoreB_sin`; the two together:
`stage_of_first`).  The cases that remain: the kind with its threading verdict, "last stage?", the claims on stdout and
stderr, the capture form; targets, open modes, the position index and the contents of the stdin slot stay variables.
-/
import XonshVerif.Lemmas.Redir
namespace Redir

/-- the spec `buildSpec` yields for a stage whose redirects claim stdin / stdout / stderr as `ci` / `co` / `ce` -/
def builtOf (cfg : Cfg) (kind : Kind) (ci : Option Nat) (co ce : Option Claim) : Spec :=
  { kind := kind
    threadable := (match kind with | .proc _ => true | .alias mark => cfg.thread && mark)
    sin := ci.map inSlot, sout := co.map outSlot, serr := ce.map errSlot
    files := slotFile (co.map outSlot) ++ slotFile (ce.map errSlot) }

/-- `none`: cmds_to_specs raises -/
def modelStage (q : Quirks) (cfg : Cfg) (cap : Cap) (p : Pos) (built : Spec) : Option (List StageOut) :=
  (finalSpec q cfg cap p built).map fun s => [stageOut q cfg cap s]

def Matches (m : Option (List StageOut)) : SpecOutcome → Prop
  | .error => m = none
  | .unspecified => True
  | .ok l => m = some l

/-- what `cmds_to_specs` leaves alone after the incoming pipe (`b` before, `s` after).  The threading verdict of a command
is decided anew for the last stage; the flag 2 enters a stdout slot through `o>e` only. -/
structure Keeps (b s : Spec) : Prop where
  kind : s.kind = b.kind
  verdict : isAlias b.kind = true → s.threadable = b.threadable
  noFd2 : b.sout ≠ some .fd2 → s.sout ≠ some .fd2
  sin : s.sin = b.sin

theorem Keeps.refl (s : Spec) : Keeps s s := ⟨rfl, fun _ => rfl, id, rfl⟩

theorem Keeps.trans {a b c : Spec} (h1 : Keeps a b) (h2 : Keeps b c) : Keeps a c :=
  ⟨h2.kind.trans h1.kind, fun ha => (h2.verdict (h1.kind ▸ ha)).trans (h1.verdict ha), fun h => h2.noFd2 (h1.noFd2 h),
    h2.sin.trans h1.sin⟩

theorem Keeps.unthreaded {b s : Spec} (h : Keeps b s) :
    (isAlias s.kind && !s.threadable) = (isAlias b.kind && !b.threadable) := by
  rw [h.kind]
  cases ha : isAlias b.kind
  · rfl
  · rw [h.verdict ha]

theorem wireUp_frame {i : Nat} {up up' : Spec} (h : wireUp i up = .ok up') : Keeps up up' := by
  obtain ⟨k, t, y, o, e, f⟩ := up
  unfold wireUp at h
  -- `wireUp` writes the two output slots only; into the stdout slot it puts `none` (for `a>p`), `pipeW i`, or what was there
  -- (`e>p` beside a claimed stdout): never the flag 2
  by_cases h1 : e = some .pipeErr <;> by_cases h2 : o = some .pipeAll <;> cases o <;>
    simp [h1, h2, setSlot] at h <;> subst h <;> exact ⟨rfl, fun _ => rfl, by simp, rfl⟩

theorem updateLast_frame (q : Quirks) (cfg : Cfg) (cap : Cap) (s : Spec) : Keeps s (updateLast q cfg cap s) := by
  -- every projection is pushed inside the nested `if`s
  obtain ⟨k, t, i, o, e, f⟩ := s
  refine ⟨?_, ?_, fun h => ?_, ?_⟩
  · cases k <;> simp only [updateLast, apply_ite Spec.kind, ite_self]
  · cases k <;> simp only [updateLast, apply_ite Spec.threadable, ite_self, isAlias, Bool.false_eq_true, false_imp_iff, imp_self]
  · rcases o with _ | x
    · cases k <;> simp only [updateLast, apply_ite Spec.sout, Option.isSome_none, Bool.false_eq_true, if_false,
        Option.some.injEq, reduceCtorEq, ite_self] <;> (repeat' split) <;> simp
    · have hx : (some x = some Slot.fd2) = False := eq_false h
      cases k <;> simp only [updateLast, apply_ite Spec.sout, Option.isSome_some, if_true, hx, if_false, ite_self] <;> exact h
  · cases k <;> simp only [updateLast, apply_ite Spec.sin, ite_self]

theorem outAt_frame {p : Pos} {b w : Spec} (h : outAt p b = some w) : Keeps b w := by
  unfold outAt at h
  split at h
  · cases h; exact .refl _
  · exact wireUp_frame (toOption_eq_some h)

theorem afterIn_frame {q : Quirks} {cfg : Cfg} {cap : Cap} {p : Pos} {b s : Spec} (h : afterIn q cfg cap p b = some s) :
    Keeps b s := by
  obtain ⟨w, h1, h⟩ := Option.bind_eq_some_iff.1 h
  refine (outAt_frame h1).trans ?_
  unfold finAt at h
  split at h <;> cases h
  split
  · exact updateLast_frame q cfg cap w
  · exact .refl _

def Spec.withSin (x : Option Slot) (s : Spec) : Spec := { s with sin := x }

/-- what a FIRST stage delivers past the incoming pipe (`b`: its spec there, whose stdin slot may hold anything), the source
left out -/
def deliver (q : Quirks) (cfg : Cfg) (cap : Cap) (last : Bool) (idx : Nat) (b : Spec) : Option (List StageOut) :=
  (afterIn q cfg cap ⟨true, last, idx⟩ b).map fun s => [stageOut q cfg cap (s.withSin none)]

theorem afterIn_first (q : Quirks) (cfg : Cfg) (cap : Cap) (first last : Bool) (idx : Nat) (b : Spec) :
    afterIn q cfg cap ⟨first, last, idx⟩ b =
      if (!(first && last)) = true ∧ (isAlias b.kind && !b.threadable) = true then none
      else afterIn q cfg cap ⟨true, last, idx⟩ b := by
  unfold afterIn
  -- `outAt` asks for `p.last` and `p.idx` only
  rw [show outAt ⟨first, last, idx⟩ b = outAt ⟨true, last, idx⟩ b from rfl]
  cases hw : outAt ⟨true, last, idx⟩ b with
  | none => simp
  | some w =>
    simp only [Option.bind_some, finAt, checkB, Pos.multi, (outAt_frame hw).unthreaded]
    cases first <;> cases last <;> cases (isAlias b.kind && !b.threadable) <;> simp

/-- what a stage reads, by its final stdin slot (the repaired reading; the snapshot's differs for an unthreaded alias) -/
def srcF : Option Slot → Src
  | some (.file t _) => .file t
  | some (.pipeR _) => .pipe
  | _ => .inherit

theorem srcOf_eq {q : Quirks} {s : Spec} (h : q.unthreadedStdinText = true → (isAlias s.kind && !s.threadable) = false) :
    srcOf q s = srcF s.sin := by
  obtain ⟨k, t, i, o, e, f⟩ := s
  have hn : (isAlias k && !t && q.unthreadedStdinText) = false := by
    cases hq : q.unthreadedStdinText
    · exact Bool.and_false _
    · rw [h hq]; rfl
  rcases i with _ | x
  · rfl
  · cases x <;> simp [srcOf, srcF, hn]

def StageOut.withSrc (v : Src) (so : StageOut) : StageOut := { so with src := v }

/-- stated over the six fields: `stageOut_src` generalises the resolved stdout slot and must keep the kind and the
threading verdict in sight for `srcOf` -/
theorem resolveFd2_sin (q : Quirks) (k t x o e f) :
    resolveFd2 q ⟨k, t, x, o, e, f⟩ = ⟨k, t, x, (resolveFd2 q ⟨k, t, none, o, e, f⟩).sout, e, f⟩ := by
  unfold resolveFd2
  dsimp only
  split
  · split <;> rfl
  · rfl

theorem stageOut_src {q : Quirks} {cfg : Cfg} {cap : Cap} {s : Spec} (h : srcOf q s = srcF s.sin) :
    stageOut q cfg cap s = (stageOut q cfg cap (s.withSin none)).withSrc (srcF s.sin) := by
  obtain ⟨k, t, x, o, e, f⟩ := s
  have hb : srcOf q ⟨k, t, x, o, e, f⟩ ≠ .broken := by
    rw [h]; dsimp only; unfold srcF; split <;> simp
  show stageOut q cfg cap ⟨k, t, x, o, e, f⟩ = { stageOut q cfg cap ⟨k, t, none, o, e, f⟩ with src := srcF x }
  rw [← show srcOf q ⟨k, t, x, o, e, f⟩ = srcF x from h]
  unfold stageOut
  rw [resolveFd2_sin q k t x, resolveFd2_sin q k t none]
  generalize (resolveFd2 q ⟨k, t, none, o, e, f⟩).sout = o'
  have hs : srcOf q ⟨k, t, x, o', e, f⟩ = srcOf q ⟨k, t, x, o, e, f⟩ := rfl
  dsimp only
  rw [hs, if_neg hb]
  generalize srcOf q ⟨k, t, x, o, e, f⟩ = src
  rw [show srcOf q ⟨k, t, none, o', e, f⟩ = .inherit from rfl]
  split <;> rfl

def sinAt (first : Bool) (idx : Nat) (ci : Option Nat) : Option Slot :=
  if first then ci.map inSlot else some (.pipeR (idx - 1))

theorem inAt_built (cfg : Cfg) (first last : Bool) (idx : Nat) (kind : Kind) (ci : Option Nat) (co ce : Option Claim) :
    inAt ⟨first, last, idx⟩ (builtOf cfg kind ci co ce) =
      if first = false ∧ ci.isSome = true then none
      else some ((builtOf cfg kind none co ce).withSin (sinAt first idx ci)) := by
  cases first <;> cases ci <;> rfl

/-- `hq`: where the snapshot's wrapping of a `<` file is present, the stage is not an unthreaded alias, the one kind of stage
it concerns -/
theorem modelStage_sin {q : Quirks} {cfg : Cfg} {cap : Cap} {first last : Bool} {idx : Nat} {kind : Kind} {ci : Option Nat}
    {co ce : Option Claim} (hq : q.unthreadedStdinText = true → unthreadedAlias cfg kind = false) :
    modelStage q cfg cap ⟨first, last, idx⟩ (builtOf cfg kind ci co ce) =
      if ((!(first && last)) = true ∧ unthreadedAlias cfg kind = true) ∨ (first = false ∧ ci.isSome = true) then none
      else (deliver q cfg cap last idx ((builtOf cfg kind none co ce).withSin (sinAt first idx ci))).map
        (List.map (StageOut.withSrc (srcF (sinAt first idx ci)))) := by
  have hu : unthreadedAlias cfg kind = (isAlias ((builtOf cfg kind none co ce).withSin (sinAt first idx ci)).kind &&
      !((builtOf cfg kind none co ce).withSin (sinAt first idx ci)).threadable) := by cases kind <;> rfl
  simp only [modelStage, finalSpec, inAt_built, deliver]
  by_cases h2 : first = false ∧ ci.isSome = true
  · rw [if_pos h2, if_pos (Or.inr h2)]; rfl
  · rw [if_neg h2, Option.bind_some, afterIn_first, ← hu]
    by_cases h1 : (!(first && last)) = true ∧ unthreadedAlias cfg kind = true
    · rw [if_pos h1, if_pos (Or.inl h1)]; rfl
    · rw [if_neg h1, if_neg (not_or.2 ⟨h1, h2⟩)]
      cases ha : afterIn q cfg cap ⟨true, last, idx⟩ ((builtOf cfg kind none co ce).withSin (sinAt first idx ci)) with
      | none => rfl
      | some s =>
        have hK := afterIn_frame ha
        have hs : srcOf q s = srcF s.sin := srcOf_eq fun hflag => by rw [hK.unthreaded, ← hu]; exact hq hflag
        show some [stageOut q cfg cap s] = some [(stageOut q cfg cap (s.withSin none)).withSrc _]
        rw [stageOut_src hs, hK.sin]; rfl

def SpecOutcome.withSrc (v : Src) : SpecOutcome → SpecOutcome
  | .ok l => .ok (l.map (StageOut.withSrc v))
  | o => o

theorem specCoreB_sin (cfg : Cfg) (cap : Cap) (first last : Bool) (idx : Nat) (kind : Kind) (outs errs : List Claim)
    (ci : Option Nat) :
    specCoreB cfg cap first last idx kind outs errs ci.toList =
      if ((!(first && last)) = true ∧ unthreadedAlias cfg kind = true) ∨ (first = false ∧ ci.isSome = true) then .error
      else (specCoreB cfg cap true last idx kind outs errs []).withSrc (srcF (sinAt first idx ci)) := by
  unfold specCoreB
  simp only [apply_ite (SpecOutcome.withSrc (srcF (sinAt first idx ci)))]
  cases unthreadedAlias cfg kind <;> cases first <;> cases last <;> cases ci <;>
    first | rfl | simp [SpecOutcome.withSrc, StageOut.withSrc, srcF, sinAt, inSlot]

theorem Matches.withSrc {m : Option (List StageOut)} {spec : SpecOutcome} (v : Src) (h : Matches m spec) :
    Matches (m.map (List.map (StageOut.withSrc v))) (spec.withSrc v) := by
  cases spec with
  | error => cases h; rfl
  | unspecified => trivial
  | ok l => cases h; rfl

theorem stage_of_first {q : Quirks} {cfg : Cfg} {cap : Cap} {first last : Bool} {idx : Nat} {kind : Kind} {ci : Option Nat}
    {co ce : Option Claim} (hq : q.unthreadedStdinText = true → unthreadedAlias cfg kind = false)
    (H : ∀ x, Matches (deliver q cfg cap last idx ((builtOf cfg kind none co ce).withSin x))
      (specCoreB cfg cap true last idx kind co.toList ce.toList [])) :
    Matches (modelStage q cfg cap ⟨first, last, idx⟩ (builtOf cfg kind ci co ce))
      (specCoreB cfg cap first last idx kind co.toList ce.toList ci.toList) := by
  rw [specCoreB_sin, modelStage_sin hq]
  split
  · rfl
  · exact (H _).withSrc _

/-- `resolveFd2` tests the switch before the slot, so the switch is the one thing every case would get stuck on when the
switches are variables: it is fixed here -/
theorem stageOut_fd2Literal (q : Quirks) (cfg : Cfg) (cap : Cap) (s : Spec) (h : s.sout ≠ some .fd2) :
    stageOut q cfg cap s = stageOut { q with fd2Literal := true } cfg cap s := by
  obtain ⟨k, t, i, o, e, f⟩ := s
  have hr : ∀ q' : Quirks, resolveFd2 q' ⟨k, t, i, o, e, f⟩ = ⟨k, t, i, o, e, f⟩ := by
    intro q'; unfold resolveFd2; rw [if_neg]; simpa using fun _ => h
  unfold stageOut
  rw [hr, hr]
  rcases o with _ | x
  · rfl
  · cases x <;> first | exact absurd rfl h | rfl

theorem deliver_fd2Literal {q : Quirks} {cfg : Cfg} {cap : Cap} {last : Bool} {idx : Nat} {b : Spec} (hb : b.sout ≠ some .fd2) :
    deliver q cfg cap last idx b =
      (afterIn q cfg cap ⟨true, last, idx⟩ b).map fun s => [stageOut { q with fd2Literal := true } cfg cap (s.withSin none)] := by
  unfold deliver
  cases h : afterIn q cfg cap ⟨true, last, idx⟩ b with
  | none => rfl
  | some s =>
    simp only [Option.map_some, stageOut_fd2Literal q cfg cap (s.withSin none) ((afterIn_frame h).noFd2 hb)]

/-- is an external command run threadable under a capturing form? (callable aliases: see `unthreadedAlias`) -/
def procThreadable (cfg : Cfg) : Kind → Bool
  | .proc pred => cfg.thread && pred
  | .alias _ => true

/-- OUTSIDE THE DEVIATION REGIONS: no `o>e`; no unthreaded callable alias; a callable alias is not the last stage of an
uncaptured `$[ ]`; the last stage under `!( )` is threadable -/
def Outside (cfg : Cfg) (cap : Cap) (last : Bool) (kind : Kind) (co : Option Claim) : Prop :=
  co ≠ some .other ∧ unthreadedAlias cfg kind = false ∧
  (last = true → cap = .uncaptured → isAlias kind = false) ∧
  (last = true → cap = .object → procThreadable cfg kind = true)

/-- one stage of the model with ANY of the seven deviations, outside the deviation regions: no switch is consulted there -/
theorem core_outside (q : Quirks) (cfg : Cfg) (cap : Cap) (first last : Bool) (idx : Nat) (kind : Kind) (ci : Option Nat)
    (co ce : Option Claim) (hinv : co = some .pipe → ce = some .other) (hR : Outside cfg cap last kind co) :
    Matches (modelStage q cfg cap ⟨first, last, idx⟩ (builtOf cfg kind ci co ce))
      (specCoreB cfg cap first last idx kind co.toList ce.toList ci.toList) := by
  obtain ⟨h1, h2, h3, h4⟩ := hR
  refine stage_of_first (fun _ => h2) fun x => ?_
  rw [deliver_fd2Literal (by rcases co with _ | (_ | _ | _) <;> first | exact absurd rfl h1 | (intro h; cases h))]
  obtain ⟨f1, f2, f3, f4, f5, f6, f7⟩ := q
  obtain ⟨thread, always, pe⟩ := cfg
  cases kind with
  | alias b =>
    have hthr : (thread && b) = true := by simpa [unthreadedAlias] using h2
    have hu : unthreadedAlias ⟨thread, always, pe⟩ (.alias b) = !(thread && b) := rfl
    -- the verdict `thread && b` of an alias is tested by the first `if` of `specCoreB` and is the `threadable` of `builtOf`,
    -- and `rfl` gets stuck on a test of a variable: it is given its value before the split (for a command the two are the
    -- constants `false` and `true`)
    unfold specCoreB builtOf
    simp only [hu, hthr]
    cases last <;> rcases co with _ | ⟨to, ao⟩ | _ | _ <;> rcases ce with _ | ⟨te, ae⟩ | _ | _ <;>
      first
        | rfl
        | exact absurd rfl h1              -- `o>e`: outside the region
        | (exfalso; simp at hinv; done)
        | (cases cap <;> first | rfl | cases h3 rfl rfl)    -- … as is a callable alias ending `$[ ]`
  | proc p =>
    cases last <;> rcases co with _ | ⟨to, ao⟩ | _ | _ <;> rcases ce with _ | ⟨te, ae⟩ | _ | _ <;>
      first
        | rfl
        | exact absurd rfl h1
        | (exfalso; simp at hinv; done)
        | (cases cap <;>
            first
              | rfl
              -- … and an unthreadable last stage under `!( )`
              | (cases thread <;> cases p <;> first | rfl | cases h4 rfl rfl | (cases always <;> rfl)))

theorem not_outside {cfg : Cfg} {cap : Cap} {last : Bool} {kind : Kind} {co : Option Claim}
    (h : ¬ Outside cfg cap last kind co) :
    co = some .other ∨ unthreadedAlias cfg kind = true ∨ (last = true ∧ cap = .uncaptured ∧ isAlias kind = true) ∨
      (last = true ∧ cap = .object ∧ procThreadable cfg kind = false) := by
  by_cases h1 : co = some .other; · exact .inl h1
  by_cases h2 : unthreadedAlias cfg kind = true; · exact .inr (.inl h2)
  by_cases h3 : last = true ∧ cap = .uncaptured ∧ isAlias kind = true; · exact .inr (.inr (.inl h3))
  by_cases h4 : last = true ∧ cap = .object ∧ procThreadable cfg kind = false; · exact .inr (.inr (.inr h4))
  exact absurd ⟨h1, by simpa using h2, fun hl hc => by simpa [hl, hc] using h3, fun hl hc => by simpa [hl, hc] using h4⟩ h

/-- outside the deviation regions no switch is consulted (`core_outside`); what is walked here is the regions, kind by
kind -/
theorem core_fixed (cfg : Cfg) (cap : Cap) (first last : Bool) (idx : Nat) (kind : Kind) (ci : Option Nat)
    (co ce : Option Claim) (hinv : co = some .pipe → ce = some .other) :
    Matches (modelStage .fixed cfg cap ⟨first, last, idx⟩ (builtOf cfg kind ci co ce))
      (specCoreB cfg cap first last idx kind co.toList ce.toList ci.toList) := by
  by_cases hR : Outside cfg cap last kind co
  · exact core_outside .fixed cfg cap first last idx kind ci co ce hinv hR
  refine stage_of_first (fun h => nomatch h) fun x => ?_
  cases kind with
  | alias b =>
    have hu : unthreadedAlias cfg (.alias b) = !(cfg.thread && b) := rfl
    have hR := not_outside hR
    unfold specCoreB builtOf
    simp only [hu] at hR ⊢
    generalize (cfg.thread && b) = thr at hR ⊢
    rcases hR with rfl | h | ⟨rfl, rfl, -⟩ | ⟨-, -, h⟩
    · -- `o>e`
      cases thr <;> cases last <;> rcases ce with _ | ⟨te, ae⟩ | _ | _ <;>
        first
          | rfl                              -- an inner stage, or an error that does not depend on the capture form
          | exact trivial                    -- with `e>o`: unspecified
          | (cases cap <;> first | rfl | exact trivial)    -- a last stage
    · -- an unthreaded alias
      cases thr
      · cases last <;> rcases co with _ | ⟨to, ao⟩ | _ | _ <;> rcases ce with _ | ⟨te, ae⟩ | _ | _ <;>
          first
            | rfl
            | exact trivial
            | (exfalso; simp at hinv; done)    -- `a>p`'s claim on stdout without its claim on stderr
            | (cases cap <;> first | rfl | exact trivial)
      · cases h
    · -- the last stage of `$[ ]`
      cases thr <;> rcases co with _ | ⟨to, ao⟩ | _ | _ <;> rcases ce with _ | ⟨te, ae⟩ | _ | _ <;>
        first | rfl | exact trivial | (exfalso; simp at hinv; done)
    · cases h
  | proc p =>
    obtain ⟨thread, always, pe⟩ := cfg
    rcases not_outside hR with rfl | h | ⟨-, -, h⟩ | ⟨rfl, rfl, h⟩
    · -- `o>e`
      cases last <;> rcases ce with _ | ⟨te, ae⟩ | _ | _ <;>
        first
          | rfl
          | exact trivial
          | (cases cap <;>
              first
                | rfl
                | exact trivial
                -- where `_last_spec_update_threading` decides whether the last stage is captured
                | (cases thread <;> first | rfl | (cases always <;> first | rfl | (cases p <;> rfl))))
    · cases h
    · cases h
    · -- the last stage of `!( )`, not threadable
      rcases co with _ | ⟨to, ao⟩ | _ | _ <;> rcases ce with _ | ⟨te, ae⟩ | _ | _ <;>
        first
          | rfl
          | exact trivial
          | (exfalso; simp at hinv; done)
          | (cases thread <;> cases p <;> first | rfl | cases h)

/-- no integer handle reaches `safe_readable` on this (last) spec -/
def noCrash (q : Quirks) (cap : Cap) (last : Bool) (s : Spec) : Bool :=
  !crashBefore q s && !(last && crashAfter q cap s)

theorem resolveFd2_kind (q : Quirks) (s : Spec) :
    (resolveFd2 q s).kind = s.kind ∧ (resolveFd2 q s).threadable = s.threadable := by
  obtain ⟨k, t, x, o, e, f⟩ := s
  rw [resolveFd2_sin]
  exact ⟨rfl, rfl⟩

theorem finalSpec_frame {q : Quirks} {cfg : Cfg} {cap : Cap} {p : Pos} {b s : Spec} (h : finalSpec q cfg cap p b = some s) :
    s.kind = b.kind ∧ (isAlias b.kind = true → s.threadable = b.threadable) := by
  obtain ⟨b1, h1, h⟩ := Option.bind_eq_some_iff.1 h
  have e1 : b1.kind = b.kind ∧ b1.threadable = b.threadable := by
    unfold inAt at h1
    split at h1
    · cases h1; exact ⟨rfl, rfl⟩
    · split at h1 <;> cases h1; exact ⟨rfl, rfl⟩
  have hK := afterIn_frame h
  exact ⟨hK.kind.trans e1.1, fun ha => (hK.verdict (e1.1 ▸ ha)).trans e1.2⟩

/-- both crashes of CommandPipeline need a callable alias: an unthreaded one, or the last stage of `$[ ]` -/
theorem noCrash_outside (q : Quirks) (cfg : Cfg) (cap : Cap) (p : Pos) (kind : Kind) (ci : Option Nat)
    (co ce : Option Claim) (hR : Outside cfg cap p.last kind co) :
    (finalSpec q cfg cap p (builtOf cfg kind ci co ce)).all (noCrash q cap p.last) = true := by
  obtain ⟨_, h2, h3, _⟩ := hR
  cases hs : finalSpec q cfg cap p (builtOf cfg kind ci co ce) with
  | none => rfl
  | some s =>
    obtain ⟨hk, ht⟩ := finalSpec_frame hs
    simp only [Option.all_some, noCrash, crashBefore, crashAfter, resolveFd2_kind, hk, builtOf]
    cases kind with
    | proc p => simp [isAlias]    -- both tests open with `isAlias`
    | alias m =>
      have hthr : (cfg.thread && m) = true := by simpa [unthreadedAlias] using h2
      have : s.threadable = true := (ht rfl).trans hthr
      -- threadable: not `crashBefore`; `crashAfter` asks for the last stage of `$[ ]`, which is no alias (`h3`)
      cases hl : p.last <;> cases cap <;> simp_all [isAlias]

abbrev Region := Cfg → Cap → Bool → Kind → Option Claim → Prop

/-- all that `route_ok` needs to know about the switches `q`, on the region `R` (of configuration, capture form, "last
stage?", kind, claim on stdout) -/
def CoreOk (q : Quirks) (R : Region) : Prop :=
  ∀ (cfg : Cfg) (cap : Cap) (p : Pos) (kind : Kind) (ci : Option Nat) (co ce : Option Claim),
    (co = some .pipe → ce = some .other) → R cfg cap p.last kind co →
    Matches (modelStage q cfg cap p (builtOf cfg kind ci co ce))
      (specCoreB cfg cap p.first p.last p.idx kind co.toList ce.toList ci.toList) ∧
    (finalSpec q cfg cap p (builtOf cfg kind ci co ce)).all (noCrash q cap p.last) = true

theorem coreOk_fixed : CoreOk Quirks.fixed (fun _ _ _ _ _ => True) := by
  intro cfg cap ⟨first, last, idx⟩ kind ci co ce hinv _
  refine ⟨core_fixed cfg cap first last idx kind ci co ce hinv, ?_⟩
  cases finalSpec Quirks.fixed cfg cap ⟨first, last, idx⟩ (builtOf cfg kind ci co ce) with
  | none => rfl
  -- both crash tests end in `&& q.intNotReadable`
  | some s => simp [noCrash, crashBefore, crashAfter, show Quirks.fixed.intNotReadable = false from rfl]

theorem coreOk_outside (q : Quirks) : CoreOk q Outside :=
  fun cfg cap ⟨first, last, idx⟩ kind ci co ce hinv hR =>
    ⟨core_outside q cfg cap first last idx kind ci co ce hinv hR, noCrash_outside q cfg cap ⟨first, last, idx⟩ kind ci co ce hR⟩

end Redir
