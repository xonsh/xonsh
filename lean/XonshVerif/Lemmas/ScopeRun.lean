/-
C02: the walk `runS` / `runL` / `runH` (Model/Scope.lean) taken apart.  Most statements are the same first step, their
header (`hdr`), followed by their blocks (`seq`): every invariant of the walk is proved for `hdr` and carried through `seq`.
-/
import XonshVerif.Lemmas.Scope
namespace Scope

abbrev Step := St → List Rec × St

def seq (f g : Step) : Step := fun st => ((f st).1 ++ (g (f st).2).1, (g (f st).2).2)

/-- the header of a statement: it records `ys`, visits its own expressions `es` generically, and the property binds the
walrus targets of `es` and `zs`; `rs` are the names it reads outright, `gx` its guards besides `gExprs` -/
def hdr (env : Env) (sid : Nat) (es : Exprs) (ys zs rs : List Name) (gx : Bool) : Step := fun st =>
  let g := st.g && gExprs env.fx es && gx
  let r := xEs env [] ((preW env st.c (allWL es)).addTop ys) es
  ([⟨sid, st.s.readsOk env es rs, [], st.tame, false, g, r.1⟩], { st with c := r.2, s := st.s.bind (allWL es ++ zs), g := g })

/-- entering a `def`: the defaults are visited inside the pushed scope -/
def enter (env : Env) (sid : Nat) (f : Name) (ps : List Name) (dfl decos : Exprs) : Step := fun st =>
  let g := st.g && gHeader env.fx (dfl.append decos)
  let r := xEs env [] (((preW env st.c (allWL (dfl.append decos))).addTop [f]).push.addTop ps) dfl
  ([⟨sid, st.s.readsOk env (dfl.append decos) [], [], st.tame, false, g, r.1⟩],
   { st with c := r.2, s := ((st.s.bind (allWL (dfl.append decos))).bind [f]).push ps, g := g })

/-- leaving it: the decorators' record (they are visited in the body's scope) and the pop -/
def leave (env : Env) (sid : Nat) (ok : Bool) (decos : Exprs) : Step := fun st =>
  let r := xEs env [] st.c decos
  ([⟨sid, ok && freeOkL (st.s.pop.visList env) decos, [], st.tame, false, st.g, r.1⟩], { st with c := r.2.pop, s := st.s.pop })

theorem hdr_ctx (env : Env) (sid : Nat) (es : Exprs) (ys zs rs : List Name) (gx : Bool) (st : St) :
    (hdr env sid es ys zs rs gx st).2.c =
      st.c.addTop (vWL env.fx.lam env.fx.comp [] es ++ (ys ++ if env.fx.walrus then allWL es else [])) := by
  show (xEs env [] ((preW env st.c (allWL es)).addTop ys) es).2 = _
  rw [xEs_ctx, preW_eq, addTop_addTop, addTop_addTop, List.append_assoc]

theorem enter_ctx (env : Env) (sid : Nat) (f : Name) (ps : List Name) (dfl decos : Exprs) (st : St) :
    (enter env sid f ps dfl decos st).2.c =
      (st.c.addTop (f :: if env.fx.walrus then allWL (dfl.append decos) else [])).push.addTop
        (vWL env.fx.lam env.fx.comp [] dfl ++ ps) := by
  show (xEs env [] (((preW env st.c (allWL (dfl.append decos))).addTop [f]).push.addTop ps) dfl).2 = _
  rw [xEs_ctx, preW_eq, addTop_addTop, addTop_addTop]; rfl

theorem allWL_one (e : Expr) : allWL (one e) = allW e := List.append_nil _

variable {env : Env} {st : St} {sid : Nat}

theorem runS_assign {tgts : Tgts} {v : Expr} : runS env st (.assign sid tgts v) =
    hdr env sid (one v) (assignAdds tgts ++ if env.fx.nested then tNamesL tgts else []) (tBindsL tgts) (tReadsL tgts)
      (env.fx.nested || subset (tBindsL tgts) (assignAdds tgts)) st := by
  rw [hdr, allWL_one]; rfl

theorem runS_annassign {t : Tgt} {ann : Expr} {v : Exprs} : runS env st (.annassign sid t ann v) =
    hdr env sid (.cons ann v) (lmName t ++ if env.fx.nested then tBinds t else []) (match v with | .nil => [] | _ => tBinds t)
      (tReads t) (env.fx.nested || subset (tBinds t) (lmName t)) st := rfl

theorem runS_augassign {t : Tgt} {v : Expr} : runS env st (.augassign sid t v) = hdr env sid (one v) [] [] (tNames t) true st := by
  rw [hdr, allWL_one, addTop_nil, Bool.and_true, List.append_nil]; rfl

theorem runS_ret {v : Exprs} : runS env st (.ret sid v) = hdr env sid v [] [] [] true st := by
  rw [hdr, addTop_nil, Bool.and_true, List.append_nil]; rfl

theorem runS_for {tgt : Tgt} {iter : Expr} {body orelse : Stmts} : runS env st (.for_ sid tgt iter body orelse) =
    seq (hdr env sid (one iter) (tNames tgt) (tBinds tgt) (tReads tgt) true) (seq (runL env · body) (runL env · orelse)) st := by
  rw [seq, hdr, allWL_one, Bool.and_true]; rfl

/-- `while` is visited by a clause that reads the same, `from … import` like `import`: both also fall under the
equation of their twin, up to unfolding `runS` -/
theorem runS_if {test : Expr} {body orelse : Stmts} : runS env st (.if_ sid test body orelse) =
    seq (hdr env sid (one test) [] [] [] true) (seq (runL env · body) (runL env · orelse)) st := by
  rw [seq, hdr, allWL_one, addTop_nil, Bool.and_true, List.append_nil]; rfl

theorem runS_with {ctxs : Exprs} {tgts : Tgts} {body : Stmts} : runS env st (.with_ sid ctxs tgts body) =
    seq (hdr env sid ctxs (tNamesL tgts) (tBindsL tgts) (tReadsL tgts) true) (runL env · body) st := by
  rw [seq, hdr, Bool.and_true]; rfl

theorem runS_try {body : Stmts} {hs : Handlers} {orelse final : Stmts} : runS env st (.try_ sid body hs orelse final) =
    seq (runL env · body) (seq (runH env · hs) (seq (runL env · orelse) (runL env · final)))
      { st with c := st.c.addTop hs.names } := rfl

theorem runS_fdef {f : Name} {ps : List Name} {dfl : Exprs} {body : Stmts} {decos : Exprs} :
    runS env st (.fdef sid f ps dfl body decos) =
      seq (enter env sid f ps dfl decos) (seq (runL env · body) (leave env sid (st.s.readsOk env (dfl.append decos) []) decos)) st := rfl

theorem runS_cdef {cn : Name} {bases : Exprs} {body : Stmts} {decos : Exprs} :
    runS env st (.cdef sid cn bases body decos) = runS env st (.fdef sid cn [] bases body decos) := rfl

theorem runL_cons {s : Stmt} {ss : Stmts} : runL env st (.cons s ss) = seq (runS env · s) (runL env · ss) st := rfl

theorem runH_cons {ty : Exprs} {nm : Option Name} {body : Stmts} {rest : Handlers} : runH env st (.cons sid ty nm body rest) =
    seq (hdr env sid ty (if env.fx.handler then optName nm else []) (optName nm) []
      (env.fx.handler || subset (optName nm) st.c.top)) (seq (runL env · body) (runH env · rest)) st := rfl

end Scope
