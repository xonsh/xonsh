/-
C02: the simulation between the property's scopes (`Sp`) and the transformer's context stack (`Ctxs`), and the operations
on either side that preserve it.
-/
import XonshVerif.Lemmas.Scope
namespace Scope

/-- level by level, every name of the left stack is in the right stack -/
def Sub2 : List (List Name) → List (List Name) → Prop
  | [], [] => True
  | f :: fs, l :: ls => (∀ x ∈ f, x ∈ l) ∧ Sub2 fs ls
  | _, _ => False

theorem Sub2_length : ∀ {fs ls : List (List Name)}, Sub2 fs ls → fs.length = ls.length
  | [], [], _ => rfl
  | _ :: _, _ :: _, h => congrArg (· + 1) (Sub2_length h.2)
  | [], _ :: _, h | _ :: _, [], h => nomatch h

theorem Sub2_mem : ∀ {fs ls : List (List Name)}, Sub2 fs ls → ∀ f ∈ fs, ∀ x ∈ f, ∃ l ∈ ls, x ∈ l
  | f0 :: fs, l0 :: ls, h, f, hf, x, hx => by
    rcases List.mem_cons.mp hf with rfl | hf
    · exact ⟨l0, List.mem_cons_self, h.1 x hx⟩
    · obtain ⟨l, hl, hxl⟩ := Sub2_mem h.2 f hf x hx
      exact ⟨l, List.mem_cons_of_mem _ hl, hxl⟩
  | [], _, _, _, hf, _, _ => nomatch hf
  | _ :: _, [], h, _, _, _, _ => nomatch h

theorem Sub2_addHead_right (xs : List Name) : ∀ {fs ls : List (List Name)}, Sub2 fs ls → Sub2 fs (addHead xs ls)
  | [], [], h => h
  | _ :: _, _ :: _, h => ⟨fun x hx => List.mem_append_right _ (h.1 x hx), h.2⟩
  | [], _ :: _, h | _ :: _, [], h => nomatch h

theorem Sub2_addHead_left {xs : List Name} : ∀ {fs ls : List (List Name)}, Sub2 fs ls →
    (∀ l ∈ ls.head?, ∀ x ∈ xs, x ∈ l) → Sub2 (addHead xs fs) ls
  | [], [], h, _ => h
  | _ :: _, l :: _, h, hx => ⟨fun x hxm => (List.mem_append.mp hxm).elim (hx l rfl x) (h.1 x), h.2⟩
  | [], _ :: _, h, _ | _ :: _, [], h, _ => nomatch h

theorem Sub2_strikeTop (x : Name) : ∀ {fs ls : List (List Name)}, Sub2 fs ls → Sub2 (strikeTop x fs) ls
  | [], [], h => h
  | _ :: _, _ :: _, h => ⟨fun y hy => h.1 y (List.mem_filter.mp hy).1, h.2⟩
  | [], _ :: _, h | _ :: _, [], h => nomatch h

theorem Sub2_bindLast (xs : List Name) : ∀ {fs ls : List (List Name)}, Sub2 fs ls → Sub2 (bindLast fs xs) (bindLast ls xs)
  | [], [], h => h
  | [_], [_], h => ⟨fun x hx => (List.mem_append.mp hx).elim (List.mem_append_left _) fun hx => List.mem_append_right _ (h.1 x hx), h.2⟩
  | _ :: _ :: _, _ :: _ :: _, h => ⟨h.1, Sub2_bindLast xs h.2⟩
  | [_], _ :: _ :: _, h | _ :: _ :: _, [_], h => nomatch h.2
  | [], _ :: _, h | _ :: _, [], h => nomatch h

theorem frames_bind (s : Sp) (xs : List Name) : (s.bind xs).frames = addHead xs s.frames := by
  obtain ⟨f, d, ss⟩ := s
  cases f <;> rfl

theorem sess_bind (s : Sp) (xs : List Name) : (s.bind xs).sess = s.sess := by
  obtain ⟨f, d, ss⟩ := s
  cases f <;> rfl

theorem length_bind (s : Sp) (xs : List Name) : (s.bind xs).frames.length = s.frames.length := by
  obtain ⟨f, d, ss⟩ := s
  cases f <;> rfl

theorem bindLast_append (inner : List (List Name)) (g xs : List Name) :
    bindLast (inner ++ [g]) xs = inner ++ [xs ++ g] := by
  induction inner with
  | nil => rfl
  | cons t r ih => cases r <;> simp_all [bindLast]

theorem levels_addGlob (c : Ctxs) (xs : List Name) : (c.addGlob xs).levels = bindLast c.levels xs :=
  (bindLast_append c.inner c.glob xs).symm

theorem length_bindLast (xs : List Name) : ∀ l : List (List Name), (bindLast l xs).length = l.length
  | [] | [_] => rfl
  | _ :: t :: r => congrArg (· + 1) (length_bindLast xs (t :: r))

structure Sim (env : Env) (s : Sp) (c : Ctxs) : Prop where
  sessBase : ∀ x ∈ s.sess, x ∈ c.base
  sessUser : ∀ x ∈ s.sess, x ∈ env.U
  builtins : ∀ x ∈ env.B, x ∈ c.base
  frames : Sub2 s.frames c.levels

variable {env : Env} {s : Sp} {c : Ctxs}

theorem Sim.init (env : Env) : Sim env (Sp.init env) (Ctxs.init env) :=
  ⟨fun _ => List.mem_append_right _, fun _ h => h, fun _ => List.mem_append_left _, ⟨fun _ h => h, trivial⟩⟩

theorem Sim.vis (h : Sim env s c) : ∀ x ∈ s.visList env, c.vis x = true := by
  intro x hx
  rw [vis_iff]
  rcases List.mem_append.mp hx with hx | hx
  · exact Or.inr (h.builtins x hx)
  rcases List.mem_append.mp hx with hx | hx
  · exact Or.inr (h.sessBase x hx)
  · obtain ⟨f, hf, hxf⟩ := List.mem_flatten.mp hx
    exact Or.inl (Sub2_mem h.frames f hf x hxf)

theorem Sim.length (h : Sim env s c) : s.frames.length = c.inner.length + 1 := by
  simpa [Ctxs.levels] using Sub2_length h.frames

theorem Sim.of_frames {s' : Sp} {c' : Ctxs} (h : Sim env s c) (hs : s'.sess = s.sess) (hb : c'.base = c.base)
    (hf : Sub2 s'.frames c'.levels) : Sim env s' c' :=
  ⟨by rw [hs, hb]; exact h.sessBase, by rw [hs]; exact h.sessUser, by rw [hb]; exact h.builtins, hf⟩

theorem Sim.addTop (h : Sim env s c) (xs : List Name) : Sim env s (c.addTop xs) :=
  h.of_frames rfl (base_addTop c xs) (by rw [levels_addTop]; exact Sub2_addHead_right xs h.frames)

theorem Sim.record (h : Sim env s c) (xs : List Name) {zs : List Name} (hz : ∀ x ∈ zs, x ∈ xs ∨ x ∈ c.top) :
    Sim env (s.bind zs) (c.addTop xs) :=
  h.of_frames (sess_bind s zs) (base_addTop c xs) (by
    rw [frames_bind, levels_addTop]
    have hf := h.frames
    rw [levels_eq c] at hf ⊢
    exact Sub2_addHead_left (Sub2_addHead_right xs hf) fun l hl x hx => Option.some.inj hl ▸ List.mem_append.mpr (hz x hx))

theorem Sim.vis_addTop (h : Sim env s c) (ws : List Name) : ∀ x ∈ ws ++ s.visList env, (c.addTop ws).vis x = true :=
  fun x hx => (Scope.vis_addTop c ws x).mpr ((List.mem_append.mp hx).imp_right (h.vis x))

theorem Sim.push (h : Sim env s c) (ps : List Name) : Sim env (s.push ps) (c.push.addTop ps) :=
  h.of_frames rfl rfl (And.intro (fun _ hx => List.mem_append_left _ hx) h.frames)

theorem Sim.pop (h : Sim env s c) (hl : 2 ≤ s.frames.length) : Sim env s.pop c.pop := by
  obtain ⟨b, g, i⟩ := c
  obtain ⟨fr, dl, ss⟩ := s
  match i, fr, h.length, h.frames with
  | _ :: _, _ :: _, _, hf => exact h.of_frames rfl rfl hf.2
  | [], [_], _, _ => exact absurd hl (Nat.not_succ_le_self 1)

theorem Sim.global {env : Env} {s : Sp} {c : Ctxs} (h : Sim env s c) (xs : List Name) :
    Sim env (s.bindGlobal xs) (c.addGlob xs) :=
  h.of_frames rfl rfl (by rw [levels_addGlob]; exact Sub2_bindLast xs h.frames)

theorem length_del1 (s : Sp) (x : Name) : (s.del1 x).frames.length = s.frames.length := by
  obtain ⟨f, d, ss⟩ := s
  cases f <;> rfl

theorem length_delAll : ∀ (xs : List Name) (s : Sp), (s.delAll xs).frames.length = s.frames.length
  | [], _ => rfl
  | x :: xs, s => (length_delAll xs _).trans (length_del1 s x)

theorem Sim.specDel (h : Sim env s c) (x : Name) : Sim env (s.del1 x) c := by
  have hs : ∀ y ∈ (s.del1 x).sess, y ∈ s.sess := fun y hy => by
    unfold Sp.del1 at hy
    split at hy
    · exact (mem_filter_ne.mp hy).1
    · exact hy
  exact ⟨fun y hy => h.sessBase y (hs y hy), fun y hy => h.sessUser y (hs y hy), h.builtins, Sub2_strikeTop x h.frames⟩

/-- a `del` Python can execute, which does not strike a builtin's only record -/
theorem Sim.del (h : Sim env s c) (x : Name)
    (ht : s.tame x = true) (hg : env.fx.delB = true ∨ x ∉ env.B ∨ topHas s x = true) :
    Sim env (s.del1 x) (c.remove env x) := by
  obtain ⟨b, g, i⟩ := c
  obtain ⟨fr, dl, ss⟩ := s
  match i, fr, h.length, h.frames with
  | [], [f], _, hf =>
    -- module level: contexts[1] and the frame lose `x` alike; contexts[0] may lose it too, and then so does the session
    obtain ⟨b', e, hb'⟩ := remove_none env b g (i := []) x rfl
    rw [e]
    refine ⟨fun y hy => ?_, fun y hy => h.sessUser y (mem_filter_ne.mp hy).1, fun y hy => ?_, List.filter_subset _ hf.1, trivial⟩
    · have hyb := List.filter_subset _ h.sessBase hy
      rcases hb' with rfl | ⟨rfl, _⟩
      · exact (mem_filter_ne.mp hyb).1
      · exact hyb
    · rcases hb' with rfl | ⟨rfl, hx⟩
      · exact h.builtins y hy
      · refine mem_filter_ne.mpr ⟨h.builtins y hy, fun e => ?_⟩
        subst e
        -- a builtin that no context records: the guard allows its `del` only with the `delB` repair
        obtain ⟨hd, hxg⟩ := hx hy
        rcases hg with hg | hg | hg
        · exact Bool.false_ne_true (hd.symm.trans hg)
        · exact hg hy
        · exact hxg (hf.1 y (List.contains_iff_mem.mp hg))
  | t :: r, f :: _ :: _, _, hf =>
    -- inside a def / class: `tame` puts `x` in the current frame, so the current context has it and is where it is struck
    rw [remove_some env b g (removeInner_top t r x (hf.1 x (List.contains_iff_mem.mp ht)))]
    exact h.of_frames rfl rfl ⟨List.filter_subset _ hf.1, hf.2⟩

theorem Sim.specDelAll : ∀ (xs : List Name) {s : Sp}, Sim env s c → Sim env (s.delAll xs) c
  | [], _, h => h
  | x :: xs, _, h => Sim.specDelAll xs (h.specDel x)

theorem tameAll_append (ns ms : List Name) : ∀ s : Sp, s.tameAll (ns ++ ms) = (s.tameAll ns && (s.delAll ns).tameAll ms) := by
  induction ns with
  | nil => exact fun _ => rfl
  | cons x xs ih => exact fun s => by simp only [List.cons_append, Sp.tameAll, Sp.delAll, ih, Bool.and_assoc]

theorem gDel_append (env : Env) (ns ms : List Name) : ∀ s : Sp, gDel env s (ns ++ ms) = (gDel env s ns && gDel env (s.delAll ns) ms) := by
  induction ns with
  | nil => exact fun _ => rfl
  | cons x xs ih => exact fun s => by simp only [List.cons_append, gDel, Sp.delAll, ih, Bool.and_assoc]

theorem delAll_append (ns ms : List Name) : ∀ s : Sp, s.delAll (ns ++ ms) = (s.delAll ns).delAll ms := by
  induction ns with
  | nil => exact fun _ => rfl
  | cons x xs ih => exact fun s => ih _

theorem removeAll_append (env : Env) (ns ms : List Name) : ∀ c : Ctxs, c.removeAll env (ns ++ ms) = (c.removeAll env ns).removeAll env ms := by
  induction ns with
  | nil => exact fun _ => rfl
  | cons x xs ih => exact fun c => ih _

theorem Sim.strikeAll (ns : List Name) : ∀ {s : Sp} {c : Ctxs}, Sim env s c →
    s.tameAll ns = true → gDel env s ns = true → Sim env (s.delAll ns) (c.removeAll env ns) := by
  induction ns with
  | nil => exact fun h _ _ => h
  | cons x xs ih =>
    intro s c h ht hg
    have ⟨ht1, ht2⟩ := Bool.and_eq_true_iff.mp ht
    have ⟨hg1, hg2⟩ := Bool.and_eq_true_iff.mp hg
    exact ih (h.del x ht1 (by simpa [or_assoc] using hg1)) ht2 hg2

end Scope
