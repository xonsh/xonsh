/-
C18, the round trip: the text `_quote_paths` writes for a name (Lemmas/PathQuote.lean) is read back
(Lemmas/PathQuoteRead.lean) as that name, from what `classify … = []` provides.

`classify … = []` says that none of its classes applies; `roundtrip` takes it apart, and the lemmas before it take the parts
under the same names throughout: `hA` no `trailingSpace` (`normName name = name`), `hB` no `lineSeparator` (no unescaped line
boundary in the name), `hg` none of `styleClasses`, `hT3` no `tripleCursorInside`, `hL` no `loneQuoteInside`, `hTi` no
`tildeCursorInside`.
-/
import XonshVerif.Lemmas.PathQuoteRead
namespace PathQuote

theorem when_nil {b : Bool} {c : Cls} : PathQuote.when b c = [] ↔ b = false := by cases b <;> simp [PathQuote.when]

theorem any_isCtrl (se : Bool) (s : Str) (hB : s.any (fun c => unescapedBreaks.contains c) = false) :
    s.any (isCtrl se) = s.any (fun c => escapedCtrl.contains c) := by
  induction s with
  | nil => rfl
  | cons c r ih =>
    simp only [List.any_cons, Bool.or_eq_false_iff] at hB
    simp only [List.any_cons, ih hB.2, isCtrl, hB.1, Bool.and_false, Bool.or_false]

/-- write, then read back, with a quote opened: a raw literal that needs no repair gives the candidate, a non-raw
literal the candidate's expansion -/
theorem quoteOne_readBack {T : Tables} (ok : TablesOk T) (E : Env) {q : Char} (hq : q = sq ∨ q = dq) (raw triple : Bool)
    (s : Str) (d ap : Bool) (hB : s.any (fun c => unescapedBreaks.contains c) = false)
    (hend : triple = true → (s ++ dirTail d).getLast? ≠ some q)
    (hraw : (raw || needsRaw T s) = true → (s ++ dirTail d).getLast? ≠ some bs ∧
      isInfix (quote q triple) (s ++ dirTail d) = false ∧ s.any (fun c => escapedCtrl.contains c) = false) :
    readBack T E (quoteOne T s (opening raw q triple) (quote q triple) d ap ++ (if ap then [] else quote q triple)) =
      .args [if raw || needsRaw T s then s ++ dirTail d else expandPath T E (s ++ dirTail d)] := by
  rw [quoteOne_quoted s (opening_isEmpty ..) (quote_isEmpty q triple), effStart_opening hq]
  cases hR : (raw || needsRaw T s) with
  | true =>
    obtain ⟨hlast, hinf, hc⟩ := hraw hR
    rw [escBody_raw hlast hinf (ok.hasCtrl_eq s ▸ hc) (isRawStart_opening hq ..)]
    exact readBack_raw E hq (sp_all d ap) (any_append_dirTail (by decide) (noBreak_of hB hc) d) hinf hlast hend
  | false =>
    rw [escBody_nonraw ok hq triple s (isRawStart_opening hq ..) d]
    exact readBack_enc ok E hq (sp_all d ap) (any_append_dirTail (by decide) hB d) hend

theorem core_quoted {T : Tables} (ok : TablesOk T) (E : Env) (se : Bool) (name : Str) {q : Char} (hq : q = sq ∨ q = dq)
    (raw triple dfs ap : Bool)
    (hA : normName name = name) (hB : name.any (fun c => unescapedBreaks.contains c) = false)
    (hg : styleClasses T E se name (opening raw q triple) (quote q triple) dfs = []) :
    readBack T E (regular T E name (opening raw q triple) (quote q triple) dfs ap ++ (if ap then [] else quote q triple)) =
      .args [name ++ dirTail (isDirEff T E name name dfs)] := by
  have hqs := (quoteChar hq).ne_slash
  generalize hd : isDirEff T E name name dfs = d at *
  have hhead : (quote q triple).head?.getD sq = q := by cases triple <;> rfl
  -- `styleClasses` with a quote opened: its first branch (`end_` empty) goes, and `hg` becomes
  -- `(if raw || needsRaw T name then <its six raw classes> else <its last three>) = []` over `name`, `d`, `q`; the two backward
  -- rewrites fold the model's inline `needsRaw` and `s ++ (if isDir then ['/'] else [])` into `needsRaw T name` and `dirTail d`
  simp only [styleClasses, hA, hd, opening_isEmpty, isRawStart_opening hq, quote_isEmpty, any_isCtrl se name hB, Bool.false_and,
    Bool.not_false, Bool.true_and, Bool.false_eq_true, if_false, ← needsRaw_eq ok, quote_length, hhead, ← dirTail.eq_1] at hg
  have hend : (triple && !d && name.getLast? == some q) = false → triple = true →
      (name ++ dirTail d).getLast? ≠ some q := fun hEnd ht =>
    getLast?_append_dirTail hqs name d fun hdf hl => by simp [ht, hdf, hl] at hEnd
  rw [regular, hA, hd]
  cases hR : (raw || needsRaw T name) with
  | true =>
    -- the raw branch, one `when … = []` per class in the model's order: `hTB` no trailingBackslash, `hQC` no rawQuoteConflict,
    -- `hCtl` no rawControlChar, `hEnd` no tripleQuoteEnd; the last two are the classes of p-strings
    simp only [hR, if_true, List.append_eq_nil_iff, when_nil] at hg
    obtain ⟨⟨⟨⟨⟨hTB, hQC⟩, hCtl⟩, hEnd⟩, _⟩, _⟩ := hg
    rw [quoteOne_readBack ok E hq raw triple name d ap hB (hend hEnd) fun _ => ⟨?_, ?_, hCtl⟩, hR, if_pos rfl]
    · exact getLast?_append_dirTail (by decide) name d fun hdf hl => by simp [hdf, (endsWith_bs_iff name).mpr hl] at hTB
    · rwa [isInfix_append_dirTail (quote_ne_nil q triple) fun h => hqs (mem_quote h).symm]
  | false =>
    -- the last branch: no dollarExpansion, no tildeExpansion, no tripleQuoteEnd
    simp only [hR, Bool.false_eq_true, if_false, List.append_eq_nil_iff, when_nil] at hg
    obtain ⟨⟨hDollar, hTilde⟩, hEnd⟩ := hg
    have e1 : expandVars T E (name ++ dirTail d) = name ++ dirTail d := by simpa using hDollar
    rw [quoteOne_readBack ok E hq raw triple name d ap hB (hend hEnd) (by simp [hR]), hR, if_neg Bool.false_ne_true]
    simpa [e1] using hTilde

/-- the user opened a triple quote and the name does not contain that quote character (`hqn` is not needed:
quote characters inside the name are covered by `core_quoted`) -/
theorem core_q3 {T : Tables} (ok : TablesOk T) (E : Env) (se : Bool) (name : Str) {q : Char} (hq : q = sq ∨ q = dq)
    (dfs : Bool) (hqn : q ∉ name)
    (hA : normName name = name) (hB : name.any (fun c => unescapedBreaks.contains c) = false)
    (hg : styleClasses T E se name [q, q, q] [q, q, q] dfs = []) :
    readBack T E (regular T E name [q, q, q] [q, q, q] dfs true) =
      .args [name ++ dirTail (isDirEff T E name name dfs)] := by
  simpa [quote, opening] using core_quoted ok E se name hq false true dfs true hA hB hg

theorem quoteToUseRef_cases (s : Str) : ∃ q, (q = sq ∨ q = dq) ∧ quoteToUseRef s = opening false q false := by
  unfold quoteToUseRef
  split
  · exact ⟨dq, Or.inr rfl, rfl⟩
  · exact ⟨sq, Or.inl rfl, rfl⟩

theorem core_bare {T : Tables} (ok : TablesOk T) (E : Env) (se : Bool) (name : Str) (hname : name ≠ []) (dfs : Bool)
    (hA : normName name = name) (hB : name.any (fun c => unescapedBreaks.contains c) = false)
    (hg : styleClasses T E se name [] [] dfs = []) :
    readBack T E (regular T E name [] [] dfs true) = .args [name ++ dirTail (isDirEff T E name name dfs)] := by
  cases hn : needsQuotes T name with
  | true =>
    -- the completer chooses a quote itself: as if the user had opened it
    obtain ⟨q, hq, hqu⟩ := quoteToUseRef_cases name
    have hreg : regular T E name [] [] dfs true = regular T E name (opening false q false) (quote q false) dfs true := by
      simp [regular, hA, quoteOne, autoQuote, hn, ok.quoteToUse, hqu, quote, opening]
    have hcls : styleClasses T E se name (opening false q false) (quote q false) dfs = [] := by
      rw [← hg]; simp [styleClasses, hA, hn, hqu, quote, opening]
    rw [hreg]
    simpa using core_quoted ok E se name hq false false dfs true hA hB hcls
  | false =>
    generalize hd : isDirEff T E name name dfs = d at *
    simp only [styleClasses, hA, hd, hn, Bool.and_false, Bool.false_eq_true, if_false, List.isEmpty_nil, if_true,
      List.append_eq_nil_iff, when_nil] at hg
    obtain ⟨⟨⟨hBang, hOdd⟩, hPy⟩, hTilde⟩ := hg
    rw [regular, hA, hd, quoteOne_bare name d true hn (ok.hasCtrl_eq name ▸ plain_noCtrl ok hn),
      readBack_plain ok E name hname hn hB (by simpa using hBang) hOdd hPy d _ (by cases d <;> rfl)]
    simpa [dirTail] using hTilde

theorem seenStyle_none {o : Str} (wq : Bool) {te : Bool} {m : Mode} (hb : o = [] ∨ loneQuote o te m = true)
    (hL : (m == .closedInside && loneQuote o te m) = false) :
    seenStyle wq o te m = ([], [], true) ∧ lineTail o m = [] := by
  rcases hb with rfl | h
  · simp [seenStyle, lineTail, stripStringPrefix]
  · simp [seenStyle, lineTail, h, show (m == Mode.closedInside) = false by simpa [h] using hL]

/-- inside closed quotes the closing quote is left to the line: with the one-character test only a one-character
quote (guard `hT3`), with the whole-quote test every quote -/
theorem seenStyle_opening {q : Char} (hq : q = sq ∨ q = dq) (raw triple : Bool) (wq te : Bool) (m : Mode)
    (hlone : loneQuote (opening raw q triple) te m = false)
    (hT3 : (!wq && m == .closedInside && !loneQuote (opening raw q triple) te m &&
      (stripStringPrefix (opening raw q triple)).length == 3) = false) :
    ∃ ap, seenStyle wq (opening raw q triple) te m = (opening raw q triple, quote q triple, ap) ∧
      lineTail (opening raw q triple) m = if ap then [] else quote q triple := by
  have hstrip := stripStringPrefix_opening hq raw triple
  have hlen : ((quote q triple).length == 1) = !triple := by cases triple <;> rfl
  refine ⟨!(m == Mode.closedInside && (!triple || wq)), by simp [seenStyle, opening_isEmpty, hlone, hstrip, hlen], ?_⟩
  cases hm : m == Mode.closedInside with
  | false => simp [lineTail, hm]
  | true =>
    have hT : (!wq && triple) = false := by simpa [hm, hlone, hstrip, quote_length] using hT3
    have : (!triple || wq) = true := by revert hT; cases triple <;> cases wq <;> decide
    simp [lineTail, hm, hstrip, this]

theorem regular_ok {T : Tables} (ok : TablesOk T) (E : Env) (wq se : Bool) (name o : Str) (te : Bool) (m : Mode) (dfs : Bool)
    (hname : name ≠ []) (ho : Opening o)
    (hA : normName name = name) (hB : name.any (fun c => unescapedBreaks.contains c) = false)
    (hg : styleClasses T E se name (seenStyle wq o te m).1 (seenStyle wq o te m).2.1 dfs = [])
    (hT3 : (!wq && m == .closedInside && !loneQuote o te m && (stripStringPrefix o).length == 3) = false)
    (hL : (m == .closedInside && loneQuote o te m) = false) :
    readBack T E (regular T E name (seenStyle wq o te m).1 (seenStyle wq o te m).2.1 dfs (seenStyle wq o te m).2.2 ++ lineTail o m) =
      .args [name ++ dirTail (isDirEff T E name name dfs)] := by
  by_cases hb : o = [] ∨ loneQuote o te m = true
  · obtain ⟨hs, hlt⟩ := seenStyle_none wq hb hL
    rw [hs] at hg ⊢
    rw [hlt, List.append_nil]
    exact core_bare ok E se name hname dfs hA hB hg
  · obtain ⟨raw, q, triple, hq, rfl⟩ := ho.resolve_left fun h => hb (Or.inl h)
    obtain ⟨ap, hs, hlt⟩ := seenStyle_opening hq raw triple wq te m (by simpa using fun h => hb (Or.inr h)) hT3
    rw [hs] at hg ⊢
    rw [hlt]
    exact core_quoted ok E se name hq raw triple dfs ap hA hB hg

theorem isDirEff_tilde (T : Tables) (E : Env) (dfs : Bool) : isDirEff T E ['~'] ['~'] dfs = dfs := by
  simp [isDirEff, startsWith, List.isPrefixOf]

theorem tilde_entry {T : Tables} (ok : TablesOk T) (E : Env) (dfs : Bool) :
    readBack T E (T.rawQuote (if dfs then ['~', '/'] else ['~'])) = .args [['~'] ++ dirTail dfs] := by
  rw [ok.rawQuote]
  cases dfs <;> rfl

/-- the first alternative carries the `offered` of `classify` -/
theorem mem_completions {T : Tables} {E : Env} {name start end_ : Str} {dfs ap : Bool} {t : Str}
    (h : t ∈ completions T E name start end_ dfs ap) :
    (t = regular T E name start end_ dfs ap ∧
        (!tildeSpecial name start || tildeKeeps (regular T E name start end_ dfs ap)) = true) ∨
      (tildeSpecial name start = true ∧ t = T.rawQuote (if dfs then ['~', '/'] else ['~'])) := by
  unfold completions at h
  cases hts : tildeSpecial name start <;> cases hk : tildeKeeps (regular T E name start end_ dfs ap) <;>
    simpa [hts, hk] using h

/-- the statement of `C18_roundtrip_partial` (Props/C18.lean), for any tables with `TablesOk` and every `Opening` -/
theorem roundtrip {T : Tables} (ok : TablesOk T) (E : Env) (wq se : Bool) (name o : Str) (te : Bool) (m : Mode) (dfs : Bool)
    (hname : name ≠ []) (ho : Opening o) (hcls : classify T E wq se name o te m dfs = [])
    (hscope : se = true → name.any (fun c => unescapedBreaks.contains c) = false) :
    ∀ t ∈ completions T E name (seenStyle wq o te m).1 (seenStyle wq o te m).2.1 dfs (seenStyle wq o te m).2.2,
      readBack T E (t ++ lineTail o m) = .args [name ++ dirTail (isDirEff T E name name dfs)] := by
  simp only [classify, List.append_eq_nil_iff, when_nil] at hcls
  obtain ⟨⟨⟨⟨⟨hA, hB0⟩, hmid⟩, hT3⟩, hL⟩, hTi⟩ := hcls
  have hA' : normName name = name := by simpa using hA
  rw [hA'] at hB0
  have hB : name.any (fun c => unescapedBreaks.contains c) = false := by
    cases hse : se with
    | true => exact hscope hse
    | false => simpa [hse] using hB0
  intro t ht
  rcases mem_completions ht with ⟨rfl, hoff⟩ | ⟨hts, rfl⟩
  · exact regular_ok ok E wq se name o te m dfs hname ho hA' hB (by simpa [hoff] using hmid) hT3 hL
  · -- the r'~' entry: no closing quote is left behind it in the line. Only inside closed quotes could one be: there a lone
    -- quote is excluded by `hL`, every other nonempty opening by `hTi`
    have hn : name = ['~'] := by simp only [tildeSpecial, Bool.and_eq_true, beq_iff_eq] at hts; exact hts.2
    have hlt : lineTail o m = [] := by
      cases hm : m == Mode.closedInside with
      | false => simp [lineTail, hm]
      | true =>
        cases o with
        | nil => simp [lineTail, stripStringPrefix]
        | cons c r =>
          cases hlone : loneQuote (c :: r) te m with
          | true => simp [hm, hlone] at hL
          | false => simp [hm, hlone, hts] at hTi
    rw [hlt, List.append_nil, hn, isDirEff_tilde]
    exact tilde_entry ok E dfs

end PathQuote
