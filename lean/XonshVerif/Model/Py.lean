/-
Python primitives shared by every translated (`Gen/`) and hand-written (`Model/`) definition.
Import-free on purpose: everything here can be linked into the `xvdriver` executable.
-/
namespace Py

/-- `for x in xs: body` with `break`.  `.error s` is `break` carrying the loop-carried
locals `s`; `.ok s` is falling off the end of the body (or `continue`). Structural recursion. -/
def loopBreak {α σ : Type} : List α → σ → (α → σ → Except σ σ) → σ
  | [], s, _ => s
  | x :: xs, s, body =>
    match body x s with
    | .error s' => s'
    | .ok s' => loopBreak xs s' body

/-- Python `xs[:k]` for an arbitrary integer `k` (negative counts from the end, clamps). -/
def sliceTo {α : Type} (xs : List α) (k : Int) : List α :=
  if k ≥ 0 then xs.take k.toNat else xs.take (xs.length - (-k).toNat)

/-- Python `xs[k:]`. -/
def sliceFrom {α : Type} (xs : List α) (k : Int) : List α :=
  if k ≥ 0 then xs.drop k.toNat else xs.drop (xs.length - (-k).toNat)

/-- Python `xs[i]` where the caller has established the index is in range; out of range
(which Python reports as `IndexError`) yields `default` and is never relied upon by a theorem. -/
def idx {α : Type} [Inhabited α] (xs : List α) (i : Int) : α :=
  if i ≥ 0 then xs.getD i.toNat default else xs.getD (xs.length - (-i).toNat) default

def len {α : Type} (xs : List α) : Int := (xs.length : Int)

theorem sliceTo_neg_zero {α : Type} (xs : List α) : sliceTo xs (-(0:Int)) = [] := by
  simp [sliceTo]

theorem sliceTo_nonneg {α : Type} (xs : List α) (k : Nat) : sliceTo xs (k : Int) = xs.take k := by
  simp [sliceTo]

theorem sliceTo_negSucc {α : Type} (xs : List α) (k : Nat) (h : 0 < k) :
    sliceTo xs (-(k : Int)) = xs.take (xs.length - k) := by
  unfold sliceTo
  have h1 : ¬ (-(k:Int) ≥ 0) := by omega
  rw [if_neg h1]
  simp

/-- termination helper: a strictly stronger filter (that drops at least one element) is strictly shorter -/
theorem filter_length_lt {α} (p q : α → Bool) (l : List α) (hpq : ∀ x, p x = true → q x = true)
    (hex : ∃ x ∈ l, q x = true ∧ p x = false) : (l.filter p).length < (l.filter q).length := by
  -- `filter p` is `filter p` of `filter q`, which drops the witness
  have e : l.filter p = (l.filter q).filter p := by
    rw [List.filter_filter]
    exact List.filter_congr fun x _ => by cases hp : p x <;> simp [hpq x, hp]
  obtain ⟨x, hx, hqx, hpx⟩ := hex
  rw [e]
  exact List.length_filter_lt_length_iff_exists.2 ⟨x, List.mem_filter.2 ⟨hx, hqx⟩, by simp [hpx]⟩

end Py
