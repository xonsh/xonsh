import XonshVerif.Model.Py
/-
C15 — alias expansion (`Aliases.eval_alias`, `Aliases.get` in xonsh/aliases.py and the spec-level
`SubprocSpec.resolve_decorators` / `resolve_alias`).  Hand-written, executable, import-free.

Tokens are abstract (`Nat`); `XSH.expand_path` is a PARAMETER `exp : Tok → Tok` (its own behaviour is
C04's subject): it is applied to the alias's words — never to the user's arguments.
A return-command alias is an ORACLE `args ↦ returned command` (theorems quantify over all oracles).
TERMINATION IS PART OF THE RESULT: `evalAlias` is accepted by Lean by well-founded recursion on the
number of table keys not yet seen — no fuel, for every table, cycles included.
-/
namespace Alias
open Py (filter_length_lt)

abbrev Tok := Nat

inductive Val where
  | words (ws : List Tok)     -- list alias (string aliases are split into this at definition time)
  | callable (id : Nat)       -- FuncAlias / ExecAlias / any callable
  | decorator (id : Nat)      -- DecoratorAlias (also callable)
  | retcmd (id : Nat)         -- callable with return_what == "command"
  deriving DecidableEq, Repr, Inhabited

abbrev Tbl := List (Tok × Val)
/-- what calling return-command alias `id` with `args` returns: `none` = it raised -/
abbrev Oracle := Nat → List Tok → Option (List Tok)

inductive Res where
  | cmd (ws : List Tok)                          -- a list of words: [token] ++ rest ++ args
  | call (v : Val) (args : List Tok)             -- [callable] ++ args
  | raisedInAlias                                -- exception inside a return-command alias: printed, None
  | valueError                                   -- empty value: `token, *rest = …` cannot unpack
  | notAlias                                     -- `get` returned `default`
  deriving DecidableEq, Repr, Inhabited

def keys (tbl : Tbl) : List Tok := tbl.map (·.1)

/-- the leading-decorator loop shared by `eval_alias` and `resolve_decorators` -/
def stripDecs (tbl : Tbl) : List Tok → List Nat → List Tok × List Nat
  | [], decs => ([], decs)
  | t :: rest, decs =>
    match tbl.lookup t with
    | some (.decorator d) => stripDecs tbl rest (decs ++ [d])
    | _ => (t :: rest, decs)

def unseen (tbl : Tbl) (seen : List Tok) : List Tok := (keys tbl).filter (fun k => !seen.contains k)

theorem unseen_lt (tbl : Tbl) (seen : List Tok) (t : Tok) (hs : t ∉ seen) (hk : t ∈ keys tbl) :
    (unseen tbl (t :: seen)).length < (unseen tbl seen).length := by
  apply filter_length_lt
  · intro x hx; simp at hx ⊢; exact hx.2
  · exact ⟨t, hk, by simpa using hs, by simp⟩

theorem lookup_isSome_mem (tbl : Tbl) (t : Tok) (v : Val) (h : tbl.lookup t = some v) : t ∈ keys tbl := by
  obtain ⟨p, hp, e⟩ := List.lookup_isSome_iff.1 (h ▸ rfl : (tbl.lookup t).isSome = true)
  exact List.mem_map.2 ⟨p, hp, (beq_iff_eq.1 e).symm⟩

/-- outcome of the non-recursive first half of `eval_alias` -/
inductive Prep where
  | done (r : Res) (decs : List Nat)
  | go (token : Tok) (rest acc : List Tok) (decs : List Nat)
  deriving DecidableEq, Repr

/-- steps 1 and 2 of `eval_alias`: strip leading decorator aliases of a multi-word value; call a
return-command alias with the accumulated arguments (its result replaces the value, the arguments
are consumed); a callable ends the expansion; a list is split into `token, *rest`. -/
def prepare (tbl : Tbl) (orc : Oracle) (exp : Tok → Tok) (v : Val) (acc : List Tok) (decs : List Nat) : Prep :=
  match v with
  | .words ws =>
    let (ws, decs) := if ws.length > 1 then stripDecs tbl ws decs else (ws, decs)
    match ws with
    | [] => .done .valueError decs               -- `token, *rest = …` cannot unpack
    | token :: rest => .go (exp token) (rest.map exp) acc decs    -- `token, *rest = map(expand_path, value)`
  | .retcmd id =>
    match orc id acc with
    | none => .done .raisedInAlias decs
    | some [] => .done .valueError decs          -- _normalize_return_command_result rejects it
    | some (token :: rest) => .go (exp token) (rest.map exp) [] decs
  | .callable _ | .decorator _ => .done (.call v acc) decs

/-- `Aliases.eval_alias(value, seen_tokens, acc_args, decorators)`; returns the result, the
decorators collected so far, and the final `seen_tokens` (for the each-alias-once theorem). -/
def evalAlias (tbl : Tbl) (orc : Oracle) (exp : Tok → Tok) (v : Val) (seen : List Tok) (acc : List Tok) (decs : List Nat) :
    Res × List Nat × List Tok :=
  match prepare tbl orc exp v acc decs with
  | .done r decs => (r, decs, seen)
  | .go token rest acc decs =>
    -- 3. the leftmost token is expanded again unless already seen or not an alias
    if hs : seen.contains token then (.cmd (token :: rest ++ acc), decs, seen)
    else match hl : tbl.lookup token with
      | none => (.cmd (token :: rest ++ acc), decs, seen)
      | some v' => evalAlias tbl orc exp v' (token :: seen) (rest ++ acc) decs
termination_by (unseen tbl seen).length
decreasing_by
  exact unseen_lt tbl seen token (by simpa using hs) (lookup_isSome_mem tbl token v' hl)

/-- `Aliases.get(key_or_cmd, decorators=…)` with `cmd = key :: args` -/
def get (tbl : Tbl) (orc : Oracle) (exp : Tok → Tok) (key : Tok) (args : List Tok) : Res × List Nat × List Tok :=
  match tbl.lookup key with
  | none => (.notAlias, [], [key])
  | some (.retcmd id) =>
    match orc id args with
    | none => (.raisedInAlias, [], [key])
    | some [] => (.valueError, [], [key])
    | some ws => evalAlias tbl orc exp (.words ws) [key] [] []
  | some v => evalAlias tbl orc exp v [key] args []

/-- what `SubprocSpec.resolve_decorators` + `resolve_alias` leave in the spec -/
structure Spec where
  cmd : List Tok
  alias : Res          -- `.notAlias` = no alias (binary lookup), `.call` = callable alias, `.cmd` = list alias
  decorators : List Nat
  deriving DecidableEq, Repr

/-- `SubprocSpec.resolve_decorators`: `for i in range(len(cmd)): … else: break; cmd = cmd[i:]`.
Unlike the loop in `eval_alias`, when EVERY word is a decorator alias the index stops at the last
word, which therefore stays in the command (and is also collected as a decorator). -/
def specStrip (tbl : Tbl) (cmd : List Tok) : List Tok × List Nat :=
  let (rest, decs) := stripDecs tbl cmd []
  match rest with
  | [] => (cmd.drop (cmd.length - 1), decs)
  | _ => (rest, decs)

def specResolve (tbl : Tbl) (orc : Oracle) (exp : Tok → Tok) (cmd : List Tok) : Spec :=
  -- resolve_decorators: only when the command has more than one word
  let (cmd, decs0) := if cmd.length > 1 then specStrip tbl cmd else (cmd, [])
  match cmd with
  | [] => ⟨[], .valueError, decs0⟩          -- `self.cmd[0]` raises IndexError
  | cmd0 :: args =>
    let (r, decs, _) := get tbl orc exp cmd0 args
    match r with
    | .call v a => ⟨cmd0 :: a, .call v a, decs0 ++ decs⟩
    | r => ⟨cmd0 :: args, r, decs0 ++ decs⟩

end Alias
